/-!
List facts that several files share.  The machines that keep one entry per agent or task in a list (`WorkerTask.S.ths`,
`Elect.S.ev`, `Loss.St`) overwrite one entry per event, and their invariants count entries (a sum of weights, a `count`, the
length of a `filter`).  What a count needs to know of `List.set` is that it exchanges the old entry for the new one, the order
aside: core's `Perm.map`, `Perm.sum_nat`, `Perm.count_eq`, `Perm.filter` do the rest (and `Perm.flatten` for the merge reader,
which overwrites a stream by its tail).  Where a list is read with a default (`Frame.storeOf`, `Metrics.M.refOf`): what `getD`
answers after a `set`, and in front of an appended part.  Core-only.
-/
namespace BS

theorem perm_set {α} {l : List α} {i : Nat} {b : α} (h : l[i]? = some b) (a : α) : (b :: l.set i a).Perm (a :: l) := by
  fun_induction List.set l i a with
  | case1 x l a => cases h; exact .swap ..
  | case2 x l i a ih => exact (List.Perm.swap ..).trans (((ih h).cons x).trans (.swap ..))
  | case3 => cases h

theorem getD_set {α} {l : List α} {i : Nat} (h : i < l.length) (j : Nat) (a d : α) :
    (l.set i a).getD j d = if i = j then a else l.getD j d := by
  simp only [List.getD_eq_getElem?_getD, List.getElem?_set, h, if_true]
  split <;> rfl

theorem getD_append_left {α} {l : List α} {k : Nat} (h : k < l.length) (l' : List α) (d : α) :
    (l ++ l').getD k d = l.getD k d := by
  rw [List.getD_eq_getElem?_getD, List.getD_eq_getElem?_getD, List.getElem?_append_left h]

end BS
