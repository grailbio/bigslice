import BS.Model.Frame
import BS.Proofs.ListSet
/-!
Helper lemmas for C11.  `Zero`, `Copy`, `sort.Sort` and, through `Copy`, `AppendFrame` overwrite a run of
consecutive rows of one store: `poke`.  `Swap` writes two single rows (`List.set`).
-/
namespace BS.Frame

section
variable {α : Type} {l rows : List α} {i k n off len : Nat}

theorem take_drop_set {x : α} : ((l.set (off + i) x).drop off).take len = ((l.drop off).take len).set i x := by
  rw [List.drop_set, if_neg (Nat.not_lt.mpr (Nat.le_add_right ..)), Nat.add_sub_cancel_left, List.take_set]

theorem getD_take_drop {d : α} (hk : k < len) : ((l.drop off).take len).getD k d = l.getD (off + k) d := by
  rw [List.getD_eq_getElem?_getD, List.getD_eq_getElem?_getD, List.getElem?_take_of_lt hk, List.getElem?_drop]

/-- Replacing `n` elements from position `i` on leaves every other position as it was. -/
theorem getElem?_overwrite_outside (hl : i ≤ l.length) (hn : rows.length = n) (hk : ¬ (i ≤ k ∧ k < i + n)) :
    (l.take i ++ rows ++ l.drop (i + n))[k]? = l[k]? := by
  have hA : (l.take i).length = i := List.length_take_of_le hl
  by_cases hki : k < i
  · rw [List.append_assoc, List.getElem?_append_left (hA.symm ▸ hki), List.getElem?_take_of_lt hki]
  · have hk' : i + n ≤ k := Nat.le_of_not_lt fun h' => hk ⟨Nat.le_of_not_lt hki, h'⟩
    rw [List.getElem?_append_right (by rw [List.length_append, hA, hn]; exact hk'), List.length_append, hA, hn,
      List.getElem?_drop, Nat.add_sub_cancel' hk']

end

variable {m : Mem} {f : Frame} {s : Store} {rows : List Row} {sid sid' k n : Nat}

theorem storeOf_setStore_same (h : sid < m.length) : storeOf (setStore m sid s) sid = s :=
  (getD_set h ..).trans (if_pos rfl)

theorem storeOf_setStore_other (h : sid ≠ sid') : storeOf (setStore m sid s) sid' = storeOf m sid' := by
  rw [storeOf, setStore, List.getD_eq_getElem?_getD, List.getElem?_set_ne h, storeOf, List.getD_eq_getElem?_getD]

theorem rowAt_setStore (hs : sid < m.length) (h : sid' = sid → s[k]? = (storeOf m sid)[k]?) :
    rowAt (setStore m sid s) sid' k = rowAt m sid' k := by
  unfold rowAt
  by_cases e : sid = sid'
  · subst e
    rw [storeOf_setStore_same hs, List.getD_eq_getElem?_getD, List.getD_eq_getElem?_getD, h rfl]
  · rw [storeOf_setStore_other e]

theorem WF.sid_lt (hw : WF m f) : f.sid < m.length := hw.1
theorem WF.len_le_cap (hw : WF m f) : f.len ≤ f.cap := hw.2.1
theorem WF.cap_le (hw : WF m f) : f.off + f.cap ≤ (storeOf m f.sid).length := hw.2.2

theorem WF.off_le (hw : WF m f) : f.off ≤ (storeOf m f.sid).length := Nat.le_trans (Nat.le_add_right ..) hw.cap_le

theorem WF.length_take_off (hw : WF m f) : ((storeOf m f.sid).take f.off).length = f.off :=
  List.length_take_of_le hw.off_le

theorem view_length (hw : WF m f) : (view m f).length = f.len := by
  rw [view, List.length_take, List.length_drop]
  exact Nat.min_eq_left (Nat.le_sub_of_add_le' (Nat.le_trans (Nat.add_le_add_left hw.len_le_cap _) hw.cap_le))

theorem view_getD (m : Mem) (f : Frame) (i : Nat) (hi : i < f.len) :
    (view m f).getD i [] = rowAt m f.sid (idx f.off i) :=
  getD_take_drop hi

theorem view_congr {m' : Mem} (h : storeOf m' f.sid = storeOf m f.sid) : view m' f = view m f := by
  rw [view, h, view]

theorem storeOf_append_left (h : sid < m.length) : storeOf (m ++ [s]) sid = storeOf m sid :=
  getD_append_left h ..

theorem storeOf_append_right (m : Mem) (s : Store) : storeOf (m ++ [s]) m.length = s := by
  rw [storeOf, List.getD_eq_getElem?_getD, List.getElem?_concat_length]; rfl

theorem view_append_right (m : Mem) (s : Store) (len cap pfx : Nat) :
    view (m ++ [s]) ⟨m.length, 0, len, cap, pfx⟩ = s.take len := by
  rw [view, storeOf_append_right]; rfl

/-- A store put together around `v` at the frame's offset shows `v`, whatever follows. -/
theorem view_setStore {v C : List Row} (hw : WF m f) (hv : v.length = f.len) :
    view (setStore m f.sid ((storeOf m f.sid).take f.off ++ v ++ C)) f = v := by
  rw [view, storeOf_setStore_same hw.sid_lt, List.append_assoc, List.drop_left' hw.length_take_off, List.take_left' hv]

/-- `rows` in place of the first `n` rows of the frame: by definition what `Zero`, `Copy` and `sort.Sort` do to memory. -/
def poke (m : Mem) (f : Frame) (n : Nat) (rows : List Row) : Mem :=
  setStore m f.sid ((storeOf m f.sid).take f.off ++ rows ++ (storeOf m f.sid).drop (f.off + n))

theorem view_poke (hw : WF m f) (hn : rows.length = n) (hi : n ≤ f.len) :
    view (poke m f n rows) f = rows ++ (view m f).drop n := by
  rw [view, poke, storeOf_setStore_same hw.sid_lt, List.append_assoc, List.drop_left' hw.length_take_off,
    List.take_append, hn, List.take_of_length_le (hn ▸ hi), view, List.drop_take, List.drop_drop]

theorem rowAt_poke_outside (hw : WF m f) (hn : rows.length = n)
    (h : ¬ (sid = f.sid ∧ f.off ≤ k ∧ k < f.off + n)) : rowAt (poke m f n rows) sid k = rowAt m sid k :=
  rowAt_setStore hw.sid_lt fun e => getElem?_overwrite_outside hw.off_le hn fun h' => h ⟨e, h'⟩

end BS.Frame
