import BS.Model.MergeErr
import BS.Proofs.KV
/-!
The reducing merge machine (BS.Model.Merge) computes the keyed fold of all the rows of its streams, provided the
streams are strictly sorted (one row per key: they were combined upstream) and the combine function is commutative
and associative.  The facts about `minKey` serve all three machines over the cursor heap (`run`, `mrun`, `cgRun`).
-/
namespace BS.Merge
open BS.KV

def AllStrict (ss : List (List KV)) : Prop := ∀ s ∈ ss, StrictSorted s

def AllSorted (ss : List (List KV)) : Prop := ∀ s ∈ ss, Sorted s

section
variable {ss : List (List KV)} {k : Int}

theorem AllStrict.allSorted (h : AllStrict ss) : AllSorted ss :=
  fun s hs => (h s hs).sorted

/-- the least of the keys at the heads of the streams -/
theorem minKey_eq (ss : List (List KV)) : minKey ss = ((ss.filterMap List.head?).map (·.1)).min? := by
  fun_induction minKey ss with
  | case1 => rfl
  | case2 ss ih => exact ih
  | case3 k v t ss hm ih | case4 k v t ss k' hm ih =>
    simp only [List.filterMap_cons, List.head?_cons, List.map_cons, List.min?_cons, ← ih, hm, Option.elim, Int.min_def,
      ← Int.not_lt, ite_not]

theorem minKey_none (h : minKey ss = none) : ss.flatten = [] := by
  rw [minKey_eq, List.min?_eq_none_iff, List.map_eq_nil_iff, List.filterMap_eq_nil_iff] at h
  exact List.flatten_eq_nil_iff.mpr fun s hs => List.head?_eq_none_iff.mp (h s hs)

theorem minKey_some (h : minKey ss = some k) :
    (∃ v t, (k, v) :: t ∈ ss) ∧ ∀ r t, r :: t ∈ ss → k ≤ r.1 := by
  rw [minKey_eq, List.min?_eq_some_iff] at h
  obtain ⟨⟨k, v⟩, hr, rfl⟩ := List.mem_map.mp h.1
  obtain ⟨s, hs, hh⟩ := List.mem_filterMap.mp hr
  obtain ⟨t, rfl⟩ := List.head?_eq_some_iff.mp hh
  exact ⟨⟨v, t, hs⟩, fun r t hrt => h.2 _ (List.mem_map_of_mem (List.mem_filterMap.mpr ⟨r :: t, hrt, rfl⟩))⟩

theorem minKey_le (hs : AllSorted ss) (h : minKey ss = some k) :
    ∀ x ∈ ss.flatten, k ≤ x.1 := by
  refine List.forall_mem_flatten.mpr fun s hss x hxs => ?_
  cases s with
  | nil => cases hxs
  | cons r t =>
    have hr := (minKey_some h).2 r t hss
    rcases List.mem_cons.mp hxs with rfl | hxt
    · exact hr
    · exact Int.le_trans hr ((sorted_cons.mp (hs _ hss)).1 x hxt)

theorem headVals_cons (k k0 v0 : Int) (t : List KV) (ss : List (List KV)) :
    headVals k (((k0, v0) :: t) :: ss) = if k0 = k then v0 :: headVals k ss else headVals k ss := by
  split
  · next h => exact List.filterMap_cons_some (if_pos h)
  · next h => exact List.filterMap_cons_none (if_neg h)

theorem advance_cons (k k0 v0 : Int) (t : List KV) (ss : List (List KV)) :
    advance k (((k0, v0) :: t) :: ss) = (if k0 = k then t else (k0, v0) :: t) :: advance k ss := rfl

theorem advance_eq_map (k : Int) (ss : List (List KV)) : advance k ss = ss.map (adv1 k) := rfl

theorem headVals_ne_nil (h : minKey ss = some k) : headVals k ss ≠ [] := by
  obtain ⟨v, t, hmem⟩ := (minKey_some h).1
  intro h0
  simpa using List.filterMap_eq_nil_iff.mp h0 _ hmem

theorem headVals_advance_perm (k : Int) (ss : List (List KV)) :
    ss.flatten.Perm ((headVals k ss).map (fun v => (k, v)) ++ (advance k ss).flatten) := by
  induction ss with
  | nil => exact .refl _
  | cons s ss ih =>
    rcases s with _ | ⟨⟨k0, v0⟩, t⟩
    · exact ih
    · rw [headVals_cons, advance_cons]
      split
      next hk =>
        subst hk
        exact ((ih.append_left t).trans (List.perm_append_comm_assoc ..)).cons _
      next => exact (ih.append_left _).trans (List.perm_append_comm_assoc ..)

theorem advance_length_lt (h : minKey ss = some k) :
    (advance k ss).flatten.length < ss.flatten.length := by
  have h1 := (headVals_advance_perm k ss).length_eq
  rw [List.length_append, List.length_map] at h1
  exact h1 ▸ Nat.lt_add_of_pos_left (List.length_pos_iff.mpr (headVals_ne_nil h))

theorem adv1_strictSorted {s : List KV} (hs : StrictSorted s) (hk : ∀ x ∈ s, k ≤ x.1) :
    StrictSorted (adv1 k s) ∧ ∀ x ∈ adv1 k s, k < x.1 := by
  fun_cases adv1 k s with
  | case1 v t => exact (strictSorted_cons.mp hs).symm
  | case2 k0 v t hne =>
    have h1 : k < k0 := Int.lt_iff_le_and_ne.mpr ⟨hk _ (.head _), Ne.symm hne⟩
    exact ⟨hs, hs.lt_of_lt_head h1⟩
  | case3 => exact ⟨.nil, fun _ h => nomatch h⟩

theorem advance_allStrict (hs : AllStrict ss) (hk : ∀ x ∈ ss.flatten, k ≤ x.1) :
    AllStrict (advance k ss) ∧ ∀ x ∈ (advance k ss).flatten, k < x.1 := by
  have h1 := fun s (h : s ∈ ss) => adv1_strictSorted (hs s h) (List.forall_mem_flatten.mp hk s h)
  exact ⟨List.forall_mem_map.mpr fun s h => (h1 s h).1,
    List.forall_mem_flatten.mpr (List.forall_mem_map.mpr fun s h => (h1 s h).2)⟩

end

variable (comb : Int → Int → Int)

theorem foldMap_sameKey (k : Int) {vs : List Int} (h : vs ≠ []) :
    foldMap comb (vs.map fun v => (k, v)) = [(k, foldVals comb vs)] := by
  obtain ⟨v, vs, rfl⟩ := List.exists_cons_of_ne_nil h
  -- past the first row the fold of the rows is the fold of the values, carried inside the one entry
  exact List.foldl_map.trans (List.foldl_hom (fun a => [(k, a)]) fun _ _ => insertKV_cons_eq)

theorem run_some (fuel : Nat) {ss : List (List KV)} {k : Int} (hm : minKey ss = some k) :
    run comb (fuel + 1) ss = (k, foldVals comb (headVals k ss)) :: run comb fuel (advance k ss) := by
  simp only [run, step, hm]

/-- the fuel bound: every round removes at least one row (`advance_length_lt`) -/
theorem run_spec (hc : ∀ a b, comb a b = comb b a) (ha : ∀ a b c, comb (comb a b) c = comb a (comb b c))
    (fuel : Nat) (ss : List (List KV)) (hs : AllStrict ss) (hf : ss.flatten.length < fuel) :
    run comb fuel ss = foldMap comb ss.flatten := by
  induction fuel generalizing ss with
  | zero => exact absurd hf (Nat.not_lt_zero _)
  | succ fuel ih =>
    cases hm : minKey ss with
    | none => rw [run, step, hm, minKey_none hm]; rfl
    | some k =>
      obtain ⟨hs', hgt⟩ := advance_allStrict hs (minKey_le hs.allSorted hm)
      have hlt := Nat.lt_of_lt_of_le (advance_length_lt hm) (Nat.le_of_lt_succ hf)
      -- the fold may take the rows at key `k` first; they make one row, and no later row disturbs it
      rw [run_some comb fuel hm, ih _ hs' hlt, foldMap_perm comb hc ha _ _ (headVals_advance_perm k ss), foldMap_append,
        foldMap_sameKey comb k (headVals_ne_nil hm), foldl_insert_head comb hgt]
      rfl

end BS.Merge
