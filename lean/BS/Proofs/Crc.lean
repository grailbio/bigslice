import BS.Model.Crc
/-! Proofs about the CRC-32 register (`BS.Crc`): the shift is linear and injective, a single set bit travels down one
place per shift, hence at most 32 message bits fed into a register reappear in it as a word that determines them;
equal suffixes keep different registers different. -/
namespace BS.Crc

theorem run_cons (s : BitVec 32) (e : Bool) (es : List Bool) : run s (e :: es) = run (step s e) es := rfl

theorem run_append (s : BitVec 32) (as bs : List Bool) : run s (as ++ bs) = run (run s as) bs :=
  List.foldl_append ..

theorem f_xor (x y : BitVec 32) : f (x ^^^ y) = f x ^^^ f y := by
  simp only [f, BitVec.getLsbD_xor, BitVec.ushiftRight_xor_distrib]
  -- the four cases differ in where `P` stands; two `P`s cancel
  cases x.getLsbD 0 <;> cases y.getLsbD 0 <;> simp [BitVec.xor_assoc, BitVec.xor_comm P]

theorem f_inj0 (x : BitVec 32) (h : f x = 0#32) : x = 0#32 := by
  unfold f at h
  split at h
  · -- impossible: the shift clears the top bit and `P` sets it
    have hm := congrArg BitVec.msb h
    simp [show P.msb = true from rfl] at hm
  · rename_i hl
    apply BitVec.eq_of_getLsbD_eq
    intro i _
    cases i with
    | zero => simpa using hl
    | succ i => rw [Nat.add_comm, ← BitVec.getLsbD_ushiftRight, h]; simp only [BitVec.getLsbD_zero]

theorem f_injective {x y : BitVec 32} (h : f x = f y) : x = y :=
  BitVec.xor_eq_zero_iff.mp (f_inj0 _ (by rw [f_xor, h, BitVec.xor_self]))

def iter (k : Nat) (x : BitVec 32) : BitVec 32 :=
  match k with
  | 0 => x
  | k+1 => f (iter k x)

theorem iter_xor (k : Nat) (x y : BitVec 32) : iter k (x ^^^ y) = iter k x ^^^ iter k y := by
  induction k with
  | zero => rfl
  | succ k ih => simp only [iter, ih, f_xor]

theorem iter_zero (k : Nat) : iter k 0#32 = 0#32 := by simpa using iter_xor k 0#32 0#32

theorem iter_injective {k : Nat} {x y : BitVec 32} (h : iter k x = iter k y) : x = y := by
  induction k with
  | zero => exact h
  | succ k ih => exact ih (f_injective h)

theorem step_injective {a b : BitVec 32} {e : Bool} (h : step a e = step b e) : a = b :=
  (BitVec.xor_left_inj _).mp (f_injective h)

theorem run_ne_of_ne (a b : BitVec 32) (suf : List Bool) (h : a ≠ b) : run a suf ≠ run b suf :=
  List.foldl_rel (r := (· ≠ ·)) h fun _ _ _ _ hne he => hne (step_injective he)

theorem f_twoPow : ∀ j : Fin 32, 1 ≤ j.val → f (BitVec.twoPow 32 j.val) = BitVec.twoPow 32 (j.val - 1) := by decide +kernel

theorem iter_twoPow (k j : Nat) (h : k + j < 32) : iter k (BitVec.twoPow 32 (k + j)) = BitVec.twoPow 32 j := by
  induction k generalizing j with
  | zero => rw [Nat.zero_add]; rfl
  | succ k ih =>
    rw [Nat.add_assoc, Nat.add_comm 1 j] at h ⊢
    rw [iter, ih (j + 1) h]
    exact f_twoPow ⟨j + 1, Nat.lt_of_le_of_lt (Nat.le_add_left ..) h⟩ (Nat.le_add_left 1 j)

/-- the word whose bit `j + i` is `es[i]` -/
def wordAt (j : Nat) : List Bool → BitVec 32
  | [] => 0#32
  | e :: es => (if e then BitVec.twoPow 32 j else 0#32) ^^^ wordAt (j + 1) es

/-- feeding a set bit into the register `j` shifts after `X` is setting place `j` of `X` before the shifts -/
theorem step_iter (j : Nat) (hj : j < 32) (X : BitVec 32) (e : Bool) :
    step (iter j X) e = iter (j + 1) (X ^^^ if e then BitVec.twoPow 32 j else 0#32) := by
  have hb : bit e = iter j (if e then BitVec.twoPow 32 j else 0#32) := by
    cases e
    · exact (iter_zero j).symm
    · exact (iter_twoPow j 0 hj).symm
  rw [step, hb, ← iter_xor, iter]

theorem run_window : ∀ (es : List Bool) (j : Nat) (X : BitVec 32), j + es.length ≤ 32 →
    run (iter j X) es = iter (j + es.length) (X ^^^ wordAt j es) := by
  intro es j X h
  fun_induction wordAt j es generalizing X with
  | case1 => rw [BitVec.xor_zero]; rfl
  | case2 j e es ih =>
    rw [List.length_cons, Nat.add_comm _ 1, ← Nat.add_assoc] at h ⊢
    rw [run_cons, step_iter j (Nat.le_trans (Nat.le_add_right ..) h), ih _ h, BitVec.xor_assoc]

theorem wordAt_low (es : List Bool) : ∀ (j n : Nat), n < j → (wordAt j es).getLsbD n = false := by
  intro j n hn
  fun_induction wordAt j es with
  | case1 => exact BitVec.getLsbD_zero
  | case2 j e es ih =>
    rw [BitVec.getLsbD_xor, ih (Nat.lt_succ_of_lt hn)]
    cases e <;> simp [BitVec.getLsbD_twoPow, Nat.ne_of_gt hn]

theorem wordAt_head (e : Bool) (es : List Bool) (j : Nat) (hj : j < 32) : (wordAt j (e :: es)).getLsbD j = e := by
  rw [wordAt, BitVec.getLsbD_xor, wordAt_low es (j + 1) j (Nat.lt_succ_self j)]
  cases e <;> simp [hj]

theorem wordAt_inj {es es' : List Bool} {j : Nat} (hl : es.length = es'.length) (h32 : j + es.length ≤ 32)
    (h : wordAt j es = wordAt j es') : es = es' := by
  induction es generalizing es' j with
  | nil => exact (List.eq_nil_of_length_eq_zero hl.symm).symm
  | cons e es ih =>
    obtain _ | ⟨e', es'⟩ := es'
    · cases hl
    · rw [List.length_cons, Nat.add_comm _ 1, ← Nat.add_assoc] at h32
      have hj : j < 32 := Nat.le_trans (Nat.le_add_right ..) h32
      obtain rfl : e = e' := by rw [← wordAt_head e es j hj, h, wordAt_head e' es' j hj]
      rw [ih (Nat.succ.inj hl) h32 ((BitVec.xor_right_inj _).mp h)]

theorem run_window_inj {t : BitVec 32} {w w' : List Bool} (hl : w.length = w'.length) (h32 : w.length ≤ 32)
    (h : run t w = run t w') : w = w' := by
  have h0 : 0 + w.length ≤ 32 := by rwa [Nat.zero_add]
  -- `run_window` at `j = 0` (`iter 0 t` is `t` by definition)
  have e : run t w = _ := run_window w 0 t h0
  have e' : run t w' = _ := run_window w' 0 t (hl ▸ h0)
  rw [e, e', hl] at h
  exact wordAt_inj hl h0 ((BitVec.xor_right_inj t).mp (iter_injective h))

theorem bitsOfByte_length (b : BitVec 8) : (bitsOfByte b).length = 8 := by simp [bitsOfByte]

theorem bitsOfByte_inj {a b : BitVec 8} (h : bitsOfByte a = bitsOfByte b) : a = b :=
  BitVec.eq_of_getLsbD_eq fun i hi => List.map_inj_left.mp h i (List.mem_range.mpr hi)

theorem bits_length (w : List (BitVec 8)) : (w.flatMap bitsOfByte).length = 8 * w.length := by
  rw [List.length_flatMap, funext bitsOfByte_length, List.map_const', List.sum_replicate_nat, Nat.mul_comm]

theorem bits_inj {w w' : List (BitVec 8)} (hl : w.length = w'.length)
    (h : w.flatMap bitsOfByte = w'.flatMap bitsOfByte) : w = w' := by
  refine (List.map_inj_right fun _ _ => bitsOfByte_inj).mp (List.eq_iff_flatten_eq.mpr ⟨h, ?_⟩)
  simp [Function.comp_def, bitsOfByte_length, List.map_const', hl]

end BS.Crc
