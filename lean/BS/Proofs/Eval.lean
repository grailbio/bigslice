import BS.Model.Eval
/-!
Lemmas for C03.  `schedule_eq`, `add_eq`, `doneStep_fst` have the form `f s = { s with fld := (f s).fld }`: after
rewriting with one, every other projection of `f s` is that of `s` by `rfl`.
-/
namespace BS.Eval

theorem lookup_upsert {β} (k k' : Nat) (v : β) (l : List (Nat × β)) :
    lookup k' (upsert k v l) = if k = k' then some v else lookup k' l := by
  induction l with
  | nil => simp [upsert, lookup]
  | cons p ps ih =>
    obtain ⟨a, b⟩ := p
    by_cases ha : a = k <;> by_cases hk : k = k' <;> simp_all [upsert, lookup]

theorem forall_lookup_upsert {β} {Q : Nat → β → Prop} {k : Nat} {v : β} {l : List (Nat × β)} (hv : Q k v)
    (hl : ∀ k' v', lookup k' l = some v' → Q k' v') : ∀ k' v', lookup k' (upsert k v l) = some v' → Q k' v' := by
  intro k' v' h
  rw [lookup_upsert] at h
  split at h
  · next e => cases h; exact e ▸ hv
  · exact hl k' v' h

theorem schedule_eq (s : EState) (t : Nat) : s.schedule t = { s with todo := (s.schedule t).todo } := by
  fun_cases EState.schedule s t <;> rfl

@[simp] theorem schedule_wait (s : EState) (t : Nat) : (s.schedule t).wait = s.wait := by
  rw [schedule_eq]
@[simp] theorem schedule_pending (s : EState) (t : Nat) : (s.schedule t).pending = s.pending := by
  rw [schedule_eq]
@[simp] theorem schedule_err (s : EState) (t : Nat) : (s.schedule t).err = s.err := by
  rw [schedule_eq]

theorem mem_schedule_todo (s : EState) (t x : Nat) :
    x ∈ (s.schedule t).todo ↔ x ∈ s.todo ∨ (x = t ∧ t ∉ s.pending) := by
  -- `t` is pending; `t` is in `todo` already; `t` is put in front of `todo`
  fun_cases EState.schedule s t
  · simp [*]
  · simp [*]; rintro rfl; assumption
  · simp [*, or_comm]

theorem schedule_nodup (s : EState) (t : Nat) (h : s.todo.Nodup) : (s.schedule t).todo.Nodup := by
  fun_cases EState.schedule s t with
  | case1 | case2 => exact h
  | case3 _ hn => exact List.nodup_cons.mpr ⟨hn, h⟩

@[simp] theorem clear_wait (g : Graph) (s : EState) (t : Nat) : (s.clear g t).wait = s.wait := rfl
@[simp] theorem clear_pending (g : Graph) (s : EState) (t : Nat) : (s.clear g t).pending = s.pending := rfl
@[simp] theorem clear_todo (g : Graph) (s : EState) (t : Nat) : (s.clear g t).todo = s.todo := rfl
@[simp] theorem clear_err (g : Graph) (s : EState) (t : Nat) : (s.clear g t).err = s.err := rfl

theorem add_eq (s : EState) (a b n : Nat) :
    s.add a b n = { s with deps := (s.add a b n).deps, counts := (s.add a b n).counts } := by
  fun_cases EState.add s a b n <;> rfl

theorem doneStep_fst (src : Nat) (s : EState) :
    (doneStep src s).1 = { s with counts := (doneStep src s).1.counts } :=
  List.foldlRecOn (motive := fun acc : EState × List Nat => acc.1 = { s with counts := acc.1.counts }) _ _ rfl
    fun _ h _ _ => by rw [h]

end BS.Eval
