import BS.Proofs.Merge
/-! The cogroup reader machine `BS.Merge.cgRun`: on sorted inputs one round emits `groupsOf k` and leaves `restOf k`
(`takeKey_eq_filter`, `cgStep_some`), so a run is an induction over filtered streams (`cgRun_spec`). -/
namespace BS.Merge
open BS.KV

/-- the streams without their rows of key `k` -/
def restOf (k : Int) (ss : List (List KV)) : List (List KV) := ss.map (List.filter fun r => r.1 != k)

section
variable {ss : List (List KV)} {k : Int}

theorem takeKey_eq_filter {s : List KV} (hs : Sorted s) (hk : ∀ x ∈ s, k ≤ x.1) :
    takeKey k s = ((s.filter fun r => r.1 = k).map (·.2), s.filter fun r => r.1 != k) := by
  fun_induction takeKey k s with
  | case1 => rfl
  | case2 v t r ih => simp [r, ih (sorted_cons.mp hs).2 fun x hx => hk x (.tail _ hx)]
  | case3 k' v t hne =>
    -- the stream is sorted and starts above `k`: no row with key `k` is left
    have h0 : k < k' := Int.lt_iff_le_and_ne.mpr ⟨hk _ (.head _), Ne.symm hne⟩
    have hle : ∀ x ∈ (k', v) :: t, k' ≤ x.1 := List.forall_mem_cons.mpr ⟨Int.le_refl k', (sorted_cons.mp hs).1⟩
    have hgt := fun x hx => Int.ne_of_gt (Int.lt_of_lt_of_le h0 (hle x hx))
    rw [List.filter_eq_nil_iff.mpr fun x hx h => hgt x hx (of_decide_eq_true h),
      List.filter_eq_self.mpr fun x hx => bne_iff_ne.mpr (hgt x hx)]
    rfl

theorem restOf_flatten : (restOf k ss).flatten = ss.flatten.filter fun r => r.1 != k :=
  List.filter_flatten.symm

theorem mem_restOf {x : KV} : x ∈ (restOf k ss).flatten ↔ x ∈ ss.flatten ∧ x.1 ≠ k := by
  rw [restOf_flatten, List.mem_filter, bne_iff_ne]

theorem restOf_sorted (hs : AllSorted ss) : AllSorted (restOf k ss) :=
  List.forall_mem_map.mpr fun s h => (hs s h).filter _

theorem restOf_length_lt (hm : minKey ss = some k) :
    (restOf k ss).flatten.length < ss.flatten.length := by
  obtain ⟨v, t, hmem⟩ := (minKey_some hm).1
  rw [restOf_flatten]
  exact List.length_filter_lt_length_iff_exists.mpr ⟨(k, v), List.mem_flatten_of_mem hmem (.head _), by simp⟩

theorem groupsOf_restOf {k' : Int} (h : k' ≠ k) : groupsOf k' (restOf k ss) = groupsOf k' ss := by
  rw [groupsOf, restOf, List.map_map]
  refine List.map_congr_left fun s _ => congrArg (List.map _) ?_
  rw [List.filter_filter]
  exact List.filter_congr fun x _ => Bool.and_eq_left_iff_imp.mpr fun hx => bne_iff_ne.mpr (of_decide_eq_true hx ▸ h)

theorem cgStep_some (hs : AllSorted ss) (hm : minKey ss = some k) :
    cgStep ss = some ((k, groupsOf k ss), restOf k ss) := by
  have key : ∀ s ∈ ss, takeKey k s = _ := fun s h =>
    takeKey_eq_filter (hs s h) (List.forall_mem_flatten.mp (minKey_le hs hm) s h)
  rw [cgStep, hm]
  exact congrArg some (Prod.ext (Prod.ext rfl (List.map_congr_left fun s h => congrArg Prod.fst (key s h)))
    (List.map_congr_left fun s h => congrArg Prod.snd (key s h)))

end

/-- over sorted inputs the rounds emit, for every number of inputs and every length,
(1) strictly ascending keys, (2) under each key exactly the values each input holds for it, in the input's order,
(3) a row for every key that occurs — hence one row per distinct key, each complete. -/
theorem cgRun_spec (fuel : Nat) (ss : List (List KV)) (hs : AllSorted ss) (hl : ss.flatten.length < fuel) :
    (cgRun fuel ss).Pairwise (fun a b => a.1 < b.1) ∧
    (∀ row ∈ cgRun fuel ss, row.2 = groupsOf row.1 ss ∧ ∃ x ∈ ss.flatten, x.1 = row.1) ∧
    (∀ x ∈ ss.flatten, ∃ row ∈ cgRun fuel ss, row.1 = x.1) := by
  induction fuel generalizing ss with
  | zero => exact absurd hl (Nat.not_lt_zero _)
  | succ fuel ih =>
    rw [cgRun]
    cases hm : minKey ss with
    | none => simp [cgStep, hm, minKey_none hm]
    | some k =>
      obtain ⟨ih1, ih2, ih3⟩ := ih (restOf k ss) (restOf_sorted hs)
        (Nat.lt_of_lt_of_le (restOf_length_lt hm) (Nat.le_of_lt_succ hl))
      obtain ⟨v, t, hmem⟩ := (minKey_some hm).1
      -- a later row stands for a row of the streams under a key other than `k`, so under a larger one
      have hgt : ∀ row ∈ cgRun fuel (restOf k ss), k < row.1 := fun row hrow => by
        obtain ⟨x, hx, hxk⟩ := (ih2 row hrow).2
        obtain ⟨hx, hne⟩ := mem_restOf.mp hx
        exact hxk ▸ Int.lt_iff_le_and_ne.mpr ⟨minKey_le hs hm x hx, Ne.symm hne⟩
      rw [cgStep_some hs hm]
      refine ⟨List.pairwise_cons.mpr ⟨hgt, ih1⟩, fun row hrow => ?_, fun x hx => ?_⟩
      · rcases List.mem_cons.mp hrow with rfl | hrow
        · exact ⟨rfl, (k, v), List.mem_flatten_of_mem hmem (.head _), rfl⟩
        · obtain ⟨hg, x, hx, hxk⟩ := ih2 row hrow
          exact ⟨by rw [hg, groupsOf_restOf (Int.ne_of_gt (hgt row hrow))], x, (mem_restOf.mp hx).1, hxk⟩
      · by_cases hxk : x.1 = k
        · exact ⟨_, .head _, hxk.symm⟩
        · obtain ⟨row, hrow, hr⟩ := ih3 x (mem_restOf.mpr ⟨hx, hxk⟩)
          exact ⟨row, .tail _ hrow, hr⟩

end BS.Merge
