import BS.Model.Reader
/-!
A reader is *lawful* for an abstraction `rem : σ → List α` (the rows still owed) and a measure `mu`
(never increased; decreased by an unproductive non-final read).  Lawful readers drain to exactly `rem`, for every
sequence of destination sizes ≥ 1.
-/
namespace BS.Reader

structure Lawful {α} (R : Rd α) (rem : R.σ → List α) (mu : R.σ → Nat) : Prop where
  len : ∀ s k, (R.read s k).2.1.length ≤ k
  split : ∀ s k, (R.read s k).2.1 ++ rem (R.read s k).1 = rem s
  eof : ∀ s k, (R.read s k).2.2 = .eof → rem (R.read s k).1 = []
  mono : ∀ s k, mu (R.read s k).1 ≤ mu s
  prog : ∀ s k, 0 < k → (R.read s k).2.1 = [] → (R.read s k).2.2 = .more → mu (R.read s k).1 < mu s
  sticky : ∀ s k, (R.read s k).2.2 = .eof → ∀ k', R.read (R.read s k).1 k' = ((R.read s k).1, [], .eof)

/-- `Lawful` for one call, of the components of its answer.  A field vacuous for the status `st` may be left out of
`{ … }`: `nofun` closes it. -/
structure Step {α} (R : Rd α) (rem : R.σ → List α) (mu : R.σ → Nat) (s : R.σ) (k : Nat)
    (s' : R.σ) (out : List α) (st : St) : Prop where
  len : out.length ≤ k
  split : out ++ rem s' = rem s
  eof : st = .eof → rem s' = [] := by nofun
  mono : mu s' ≤ mu s
  prog : 0 < k → out = [] → st = .more → mu s' < mu s := by nofun
  sticky : st = .eof → ∀ k', R.read s' k' = (s', [], .eof) := by nofun

section
variable {α} {R : Rd α} {rem : R.σ → List α} {mu : R.σ → Nat}

theorem Lawful.step (h : Lawful R rem mu) (s : R.σ) (k : Nat) :
    ∃ s' out st, R.read s k = (s', out, st) ∧ Step R rem mu s k s' out st :=
  ⟨_, _, _, rfl, h.len s k, h.split s k, h.eof s k, h.mono s k, h.prog s k, h.sticky s k⟩

theorem Lawful.of_step (H : ∀ s k, ∃ s' out st, R.read s k = (s', out, st) ∧ Step R rem mu s k s' out st) :
    Lawful R rem mu := by
  constructor
  all_goals
    intro s k
    obtain ⟨_, _, _, hr, hs⟩ := H s k
    rw [hr]
  · exact hs.len
  · exact hs.split
  · exact hs.eof
  · exact hs.mono
  · exact hs.prog
  · exact hs.sticky

variable {s s₁ s' : R.σ} {k : Nat} {out : List α} {st : St}

theorem Step.ended (hrem : rem s = []) (hread : ∀ k', R.read s k' = (s, [], .eof)) : Step R rem mu s k s [] .eof where
  len := Nat.zero_le _
  split := rfl
  eof _ := hrem
  mono := Nat.le_refl _
  sticky _ := hread

theorem Step.out_eq (hs : Step R rem mu s k s' out .eof) : out = rem s := by
  rw [← hs.split, hs.eof rfl, List.append_nil]

theorem Step.measure_le (hs : Step R rem mu s k s' out st) : mu s' + (rem s').length ≤ mu s + (rem s).length := by
  rw [← hs.split, List.length_append]
  exact Nat.add_le_add hs.mono (Nat.le_add_left _ _)

theorem Step.measure_lt (hs : Step R rem mu s k s' out .more) (hk : 0 < k) :
    mu s' + (rem s').length < mu s + (rem s).length := by
  rw [← hs.split]
  cases out with
  | nil => exact Nat.add_lt_add_right (hs.prog hk rfl rfl) _
  | cons a l =>
    rw [List.length_append]
    exact Nat.add_lt_add_of_le_of_lt hs.mono (Nat.lt_add_of_pos_left (Nat.succ_pos _))

theorem Step.retry (h₁ : Step R rem mu s k s₁ [] .more) (hs : Step R rem mu s₁ k s' out st) :
    Step R rem mu s k s' out st :=
  { hs with
    split := hs.split.trans h₁.split
    mono := Nat.le_trans hs.mono h₁.mono
    prog := fun hk ho hm => Nat.lt_of_lt_of_le (hs.prog hk ho hm) h₁.mono }

end

/-- With `mu s + |rem s| + 1` calls a lawful reader delivers exactly `rem s`. -/
theorem drain_spec {α} (R : Rd α) (rem : R.σ → List α) (mu : R.σ → Nat) (h : Lawful R rem mu)
    (dest : Nat → Nat) (hd : ∀ i, 0 < dest i) :
    ∀ (fuel i : Nat) (s : R.σ), mu s + (rem s).length < fuel → drain R dest fuel i s = rem s := by
  intro fuel
  induction fuel with
  | zero => exact fun i s hf => absurd hf (Nat.not_lt_zero _)
  | succ fuel ih =>
    intro i s hf
    obtain ⟨s', out, st, hr, hs⟩ := h.step s (dest i)
    cases st with
    | eof => simpa only [drain, hr] using hs.out_eq
    | more =>
      simp only [drain, hr]
      rw [ih _ _ (Nat.lt_of_lt_of_le (hs.measure_lt (hd i)) (Nat.le_of_lt_succ hf)), hs.split]

theorem drain_calls_bounded {α} (R : Rd α) (rem : R.σ → List α) (mu : R.σ → Nat) (h : Lawful R rem mu)
    (s : R.σ) (k : Nat) : (R.read s k).2.1.length ≤ k := h.len s k

def Up.rem {α} (u : Up α) : List α := if u.ended then [] else u.rest
def Up.mu {α} (u : Up α) : Nat := if u.ended then 0 else u.script.length + 1

theorem Up.read_ended {α} (u : Up α) (k : Nat) (h : u.ended = true) : u.read k = (u, [], .eof) :=
  if_pos h

/-- Without a script an upstream reads as if its next entry were `(k, true)`: the case `n = k`, `e = true`. -/
theorem Up.read_live {α} (u : Up α) (k : Nat) (h : u.ended = false) :
    ∃ n e sc, n ≤ k ∧ (sc.length < u.script.length ∨ sc.length = u.script.length ∧ n = k ∧ e = true) ∧
      u.read k = if (u.rest.drop n).isEmpty && e then (⟨[], sc, true⟩, u.rest.take n, .eof)
        else (⟨u.rest.drop n, sc, false⟩, u.rest.take n, .more) := by
  cases hs : u.script with
  | nil => exact ⟨k, true, [], Nat.le_refl k, .inr ⟨rfl, rfl, rfl⟩, by simp [Up.read, h, hs]⟩
  | cons p sc => exact ⟨min p.1 k, p.2, sc, Nat.min_le_right .., .inl (Nat.lt_succ_self _), by simp [Up.read, h, hs]⟩

theorem up_lawful (α : Type) : Lawful (upRd α) Up.rem Up.mu := .of_step fun u k => by
  cases h : u.ended with
  | true => exact ⟨u, [], .eof, u.read_ended k h, .ended (by simp [Up.rem, h]) fun k' => u.read_ended k' h⟩
  | false =>
    obtain ⟨n, e, sc, hn, hsc, hr⟩ := u.read_live k h
    have hlen := Nat.le_trans (List.length_take_le n u.rest) hn
    by_cases hc : ((u.rest.drop n).isEmpty && e) = true
    · rw [if_pos hc] at hr
      simp only [Bool.and_eq_true, List.isEmpty_iff, List.drop_eq_nil_iff] at hc
      exact ⟨_, _, _, hr,
        { len := hlen
          split := by simp [Up.rem, h, List.take_of_length_le hc.1]
          eof := fun _ => rfl
          mono := Nat.zero_le _
          sticky := fun _ k' => Up.read_ended ⟨[], sc, true⟩ k' rfl }⟩
    · rw [if_neg hc] at hr
      refine ⟨_, _, _, hr,
        { len := hlen
          split := by simp [Up.rem, h]
          mono := ?_
          prog := fun hk he _ => ?_ }⟩ <;>
        simp only [Up.mu, h, Bool.false_eq_true, if_false]
      · omega
      · rcases hsc with hsc | ⟨_, rfl, rfl⟩
        · omega
        · -- without a script a read of `k > 0` rows is empty only when nothing is left: end of stream
          refine absurd ?_ hc
          rw [(List.take_eq_nil_iff.1 he).resolve_left (Nat.ne_of_gt hk), List.drop_nil]
          rfl

end BS.Reader
