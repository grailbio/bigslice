import BS.Proofs.Reader
/-! The scanner over any lawful reader yields exactly the rows the reader still has, in order. -/
namespace BS.Reader

variable {α} {U : Rd α} {rem : U.σ → List α} {mu : U.σ → Nat} {c : Nat} {fuelOf : U.σ → Nat}

theorem scanFill_spec (h : Lawful U rem mu) (hc : 0 < c) (fuel : Nat) (s : U.σ) (hf : mu s < fuel) :
    ∃ s' out e, scanFill U c fuel s = (s', out, e) ∧ out ++ (if e then [] else rem s') = rem s ∧
      (out = [] → e = true) := by
  induction fuel generalizing s with
  | zero => exact absurd hf (Nat.not_lt_zero _)
  | succ fuel ih =>
    obtain ⟨s', out, st, hr, hs⟩ := h.step s c
    cases st with
    | eof => exact ⟨s', out, true, by simp [scanFill, hr], by simpa using hs.out_eq, fun _ => rfl⟩
    | more =>
      cases out with
      | cons a l => exact ⟨s', a :: l, false, by simp [scanFill, hr], hs.split, nofun⟩
      | nil =>
        obtain ⟨s'', out, e, hr', hsp, he⟩ := ih s' (Nat.lt_of_lt_of_le (hs.prog hc rfl rfl) (Nat.le_of_lt_succ hf))
        exact ⟨s'', out, e, by simp [scanFill, hr, hr'], hsp.trans hs.split, he⟩

/-- the rows a scanner still owes: its buffer, then what the reader holds -/
def scanRem (rem : U.σ → List α) (s : ScanS U.σ α) : List α :=
  s.buf ++ (if s.atEOF then [] else rem s.up)

theorem scan_spec (h : Lawful U rem mu) (hc : 0 < c) (hf : ∀ s, mu s < fuelOf s) (s : ScanS U.σ α) :
    scanRem rem s = match scan U c fuelOf s with
      | (s', some x) => x :: scanRem rem s'
      | (_, none) => [] := by
  obtain ⟨up, buf, atEOF⟩ := s
  cases buf with
  | cons x rest => rfl
  | nil =>
    cases atEOF with
    | true => rfl
    | false =>
      obtain ⟨s', out, e, hr, hsp, he⟩ := scanFill_spec h hc (fuelOf up) up (hf up)
      cases out with
      | cons x rest => simpa [scan, hr, scanRem] using hsp.symm
      | nil => simpa [scan, hr, scanRem, he rfl] using hsp.symm

theorem scanAll_spec (h : Lawful U rem mu) (hc : 0 < c) (hf : ∀ s, mu s < fuelOf s) (n : Nat) (s : ScanS U.σ α)
    (hn : (scanRem rem s).length < n) : scanAll U c fuelOf n s = scanRem rem s := by
  induction n generalizing s with
  | zero => exact absurd hn (Nat.not_lt_zero _)
  | succ n ih =>
    rw [scan_spec h hc hf s] at hn ⊢
    rw [scanAll]
    generalize scan U c fuelOf s = r at hn ⊢
    obtain ⟨s', _ | x⟩ := r
    · rfl
    · exact congrArg _ (ih s' (Nat.lt_of_succ_lt_succ hn))

end BS.Reader
