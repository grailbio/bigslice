import BS.Model.Exec
import BS.Properties.C09
import BS.Properties.C17
/-!
The simulation between `Exec` (under any valid strategy) and `Sem`: a pipelined operator drains to its
list function, a shuffle delivers to every consumer a permutation of its partition.
-/
namespace BS.Exec
open BS.Prog BS.KV BS.Part BS.Sem BS.Reader

/-- `List.Forall₂`, which core does not have -/
inductive All2 {α β} (R : α → β → Prop) : List α → List β → Prop
  | nil : All2 R [] []
  | cons {a b as bs} : R a b → All2 R as bs → All2 R (a :: as) (b :: bs)

theorem All2.append {α β} {R : α → β → Prop} {xs ys xs' ys'} (h : All2 R xs ys) (h' : All2 R xs' ys') :
    All2 R (xs ++ xs') (ys ++ ys') := by
  induction h with
  | nil => exact h'
  | cons h _ ih => exact .cons h ih

theorem All2.zipIdx {α β} {R : α → β → Prop} {xs ys} (h : All2 R xs ys) :
    ∀ k, All2 (fun x y => R x.1 y.1 ∧ x.2 = y.2) (xs.zipIdx k) (ys.zipIdx k) := by
  induction h with
  | nil => exact fun _ => .nil
  | cons h _ ih => exact fun k => .cons ⟨h, rfl⟩ (ih (k + 1))

section
variable {α β γ δ : Type _} {R : α → β → Prop} {xs : List α} {ys : List β}

theorem All2.length_eq (h : All2 R xs ys) : xs.length = ys.length := by
  induction h with
  | nil => rfl
  | cons _ _ ih => rw [List.length_cons, List.length_cons, ih]

theorem All2.map {S : γ → δ → Prop} {f : α → γ} {g : β → δ} (h : All2 R xs ys) (hi : ∀ {x y}, R x y → S (f x) (g y)) :
    All2 S (xs.map f) (ys.map g) := by
  induction h with
  | nil => exact .nil
  | cons h _ ih => exact .cons (hi h) ih

theorem All2.getElem? (h : All2 R xs ys) (i : Nat) : Option.Rel R xs[i]? ys[i]? := by
  induction h generalizing i with
  | nil => exact .none
  | cons h _ ih =>
    cases i with
    | zero => exact .some h
    | succ i => exact ih i

theorem All2.getD (h : All2 R xs ys) (p : Nat) {a : α} {b : β} (hd : R a b) : R (xs.getD p a) (ys.getD p b) := by
  induction h generalizing p with
  | nil => exact hd
  | cons h _ ih =>
    cases p with
    | zero => exact h
    | succ p => exact ih p

theorem All2.take (h : All2 R xs ys) (k : Nat) : All2 R (xs.take k) (ys.take k) := by
  induction h generalizing k with
  | nil => rw [List.take_nil, List.take_nil]; exact .nil
  | cons h _ ih =>
    cases k with
    | zero => exact .nil
    | succ k => exact .cons h (ih k)

theorem All2.set_left (h : All2 R xs ys) {k : Nat} {a : α} {b : β} (hb : ys[k]? = some b) (hab : R a b) :
    All2 R (xs.set k a) ys := by
  induction h generalizing k with
  | nil => exact .nil
  | cons h t ih =>
    cases k with
    | zero => exact .cons (Option.some.inj hb ▸ hab) t
    | succ k => exact .cons h (ih hb)

theorem All2.range_map_getD {g : Nat → α} (d : β) (h : ∀ p, p < ys.length → R (g p) (ys.getD p d)) :
    All2 R ((List.range ys.length).map g) ys := by
  induction ys generalizing g with
  | nil => exact .nil
  | cons y ys ih =>
    rw [List.length_cons, List.range_succ_eq_map, List.map_cons, List.map_map]
    exact .cons (h 0 (Nat.succ_pos _)) (ih fun p hp => h (p + 1) (Nat.succ_lt_succ hp))

variable {R : α → α → Prop} {xs ys zs : List α}

theorem All2.refl (hr : ∀ x, R x x) : ∀ xs, All2 R xs xs
  | [] => .nil
  | x :: xs => .cons (hr x) (All2.refl hr xs)

theorem All2.map_same {S : β → γ → Prop} {f : α → β} {g : α → γ} {l : List α} (h : ∀ x, S (f x) (g x)) :
    All2 S (l.map f) (l.map g) :=
  (All2.refl (R := Eq) (fun _ => rfl) l).map fun e => e ▸ h _

theorem All2.symm (h : All2 R xs ys) (hs : ∀ {x y}, R x y → R y x) : All2 R ys xs := by
  induction h with
  | nil => exact .nil
  | cons h _ ih => exact .cons (hs h) ih

theorem All2.trans (h : All2 R xs ys) (h' : All2 R ys zs) (ht : ∀ {x y z}, R x y → R y z → R x z) : All2 R xs zs := by
  induction h generalizing zs with
  | nil => cases h'; exact .nil
  | cons h _ ih => cases h' with | cons g gs => exact .cons (ht h g) (ih gs)

end

/-- the fuel `flat_lawful` asks for the inner loop of the Flatmap reader (`upFuel_lt`, for the drains, rests on it) -/
theorem flatFuel_le_upFuel (s : Up KV) : Up.mu s + (Up.rem s).length + 3 ≤ upFuel s := by
  unfold Up.mu Up.rem upFuel
  split
  · exact Nat.le_add_left _ _
  · rw [Nat.add_right_comm _ 1]; exact Nat.le_refl _

/-- the fuel `drain_spec` asks to deliver `k` rows -/
theorem upFuel_lt {s : Up KV} {k : Nat} (hk : k ≤ (Up.rem s).length) : Up.mu s + k < upFuel s :=
  calc Up.mu s + k ≤ Up.mu s + (Up.rem s).length := Nat.add_le_add_left hk _
    _ < Up.mu s + (Up.rem s).length + 3 := Nat.lt_add_of_pos_right (Nat.succ_pos 2)
    _ ≤ upFuel s := flatFuel_le_upFuel s

theorem Strategy.Valid.drain_eq {σ : Strategy} (hσ : σ.Valid) (i p : Nat) {R : Rd KV} {rem mu}
    (h : Lawful R rem mu) (s : R.σ) {fuel : Nat} (hf : mu s + (rem s).length < fuel) :
    drain R (σ.dest i p) fuel 0 s = rem s :=
  drain_spec R rem mu h (σ.dest i p) (hσ.1 i p) fuel 0 s hf

theorem runMap_eq (σ : Strategy) (hσ : σ.Valid) (i p : Nat) (f : KV → KV) (rows : List KV) :
    runMap σ i p f rows = rows.map f :=
  hσ.drain_eq i p (map_lawful _ f _ _ (up_lawful KV)) (upOf σ i p rows) (upFuel_lt (Nat.le_of_eq (List.length_map f)))

theorem runFilter_eq (σ : Strategy) (hσ : σ.Valid) (i p : Nat) (pr : KV → Bool) (rows : List KV) :
    runFilter σ i p pr rows = rows.filter pr :=
  hσ.drain_eq i p (filter_lawful _ pr _ _ (up_lawful KV) upFuel fun _ => Nat.succ_pos _)
    ⟨upOf σ i p rows, false⟩ (by
      -- the measure `mu + |rem| + 1` and the rows still to come are each below `upFuel`
      rw [Nat.two_mul]
      exact Nat.add_lt_add_of_le_of_lt (upFuel_lt (Nat.le_refl _))
        (Nat.lt_of_le_of_lt (Nat.le_add_left _ _) (upFuel_lt (List.length_filter_le pr _))))

theorem runFlat_eq (σ : Strategy) (hσ : σ.Valid) (i p : Nat) (g : KV → List KV) (rows : List KV) :
    runFlat σ i p g rows = rows.flatMap g :=
  hσ.drain_eq i p (flat_lawful _ g _ _ (up_lawful KV) upFuel flatFuel_le_upFuel) ⟨upOf σ i p rows, [], [], false⟩
    (by rw [Nat.zero_add]; exact Nat.lt_succ_self _)

theorem runHead_eq (σ : Strategy) (hσ : σ.Valid) (i p n : Nat) (rows : List KV) :
    runHead σ i p n rows = rows.take n :=
  hσ.drain_eq i p (head_lawful _ _ _ (up_lawful KV)) ⟨upOf σ i p rows, n⟩ (upFuel_lt (List.length_take_le' n _))

theorem combFn_cases (c : String) : combFn c = max ∨ combFn c = (· + ·) := by
  unfold combFn; split
  · exact .inl (funext fun a => funext fun b => by simp only [Int.max_def, GT.gt, ← Int.not_le, ite_not])
  · exact .inr rfl

theorem combFn_comm (c : String) (a b : Int) : combFn c a b = combFn c b a := by
  rcases combFn_cases c with h | h <;> rw [h]
  · exact Int.max_comm a b
  · exact Int.add_comm a b

theorem combFn_assoc (c : String) (a b d : Int) : combFn c (combFn c a b) d = combFn c a (combFn c b d) := by
  rcases combFn_cases c with h | h <;> rw [h]
  · exact Int.max_assoc a b d
  · exact Int.add_assoc a b d

theorem cogroupShard_perm {ra ra' rb rb' : List KV} (ha : ra.Perm ra') (hb : rb.Perm rb') :
    cogroupShard ra rb = cogroupShard ra' rb' :=
  foldMap_perm _ Int.add_comm Int.add_assoc _ _ ((ha.map _).append (hb.map _))

theorem partsOf_flatten (f : KV → Nat) (s : List (List KV)) (p : Nat) : (partsOf f s p).flatten = partOf f s p :=
  List.filter_flatten.symm

theorem arrive_perm (σ : Strategy) (hσ : σ.Valid) (i d : Nat) (f : KV → Nat) {s s' : List (List KV)} (p : Nat)
    (h : s.flatten.Perm s'.flatten) : (arrive σ i d f s p).flatten.Perm (partOf f s' p) :=
  (hσ.2 i d p _).trans <| .trans (.of_eq (partsOf_flatten f s p)) (h.filter _)

/-- two shards agree: identical where the program fixes the order, equal as multisets otherwise -/
def RowsSim (o : Bool) (x y : List KV) : Prop := if o then x = y else x.Perm y

theorem RowsSim.of_eq {o x y} (h : x = y) : RowsSim o x y := by
  cases o
  · exact h ▸ .refl x
  · exact h

theorem RowsSim.perm {o x y} (h : RowsSim o x y) : x.Perm y := by
  cases o
  · exact h
  · exact h ▸ .refl x

theorem RowsSim.symm {o x y} (h : RowsSim o x y) : RowsSim o y x := by
  cases o
  · exact List.Perm.symm h
  · exact Eq.symm h

theorem RowsSim.trans {o x y z} (h : RowsSim o x y) (h' : RowsSim o y z) : RowsSim o x z := by
  cases o
  · exact List.Perm.trans h h'
  · exact Eq.trans h h'

/-- the first alternative is for `Head`, which respects equality only -/
theorem RowsSim.congr {o x y} (F : List KV → List KV) (hF : o = true ∨ ∀ x y, x.Perm y → (F x).Perm (F y))
    (h : RowsSim o x y) : RowsSim o (F x) (F y) := by
  cases o
  · exact hF.elim (fun h => nomatch h) fun hF => hF x y h
  · exact congrArg F h

/-- two slices agree: the same order flag, and shard by shard the same rows (`RowsSim`) -/
structure Sim (a b : Shards) : Prop where
  ord : a.ordered = b.ordered
  rows : All2 (RowsSim a.ordered) a.rows b.rows

theorem Sim.refl (a : Shards) : Sim a a := ⟨rfl, All2.refl (fun _ => .of_eq rfl) _⟩

theorem Sim.symm {a b : Shards} (h : Sim a b) : Sim b a where
  ord := h.ord.symm
  rows := h.ord ▸ h.rows.symm RowsSim.symm

theorem Sim.trans {a b c : Shards} (h : Sim a b) (h' : Sim b c) : Sim a c where
  ord := h.ord.trans h'.ord
  rows := h.rows.trans (h.ord ▸ h'.rows) RowsSim.trans

theorem Sim.flatten_perm {a b} (h : Sim a b) : a.rows.flatten.Perm b.rows.flatten := by
  have hr := h.rows
  generalize a.rows = xs, b.rows = ys at hr
  induction hr with
  | nil => exact .refl _
  | cons h _ ih => exact h.perm.append ih

theorem Sim.rows_eq {a b} (h : Sim a b) (ho : a.ordered = true) : a.rows = b.rows := by
  have hr := h.rows
  rw [ho] at hr
  generalize a.rows = xs, b.rows = ys at hr
  induction hr with
  | nil => rfl
  | cons h _ ih => exact congr (congrArg _ h) ih

theorem Sim.len {a b} (h : Sim a b) : a.rows.length = b.rows.length := h.rows.length_eq

theorem getRef_sim {env env' res res' : List Shards} (he : All2 Sim env env') (hr : All2 Sim res res') (r : Ref) :
    Sim (getRef env res r) (getRef env' res' r) := by
  cases r with
  | node i => exact he.getD i (.refl _)
  | result i => exact hr.getD i (.refl _)

theorem imap_eq_map {f : Nat → List KV → List KV} {F : List KV → List KV} (h : ∀ p x, f p x = F x)
    (l : List (List KV)) : imap f l = l.map F := by
  unfold imap
  conv => rhs; rw [← List.zipIdx_map_fst 0 l, List.map_map]
  exact List.map_congr_left fun x _ => h x.2 x.1

theorem Sim.imap {a b : Shards} (h : Sim a b) {f : Nat → List KV → List KV} {F : List KV → List KV}
    (hf : ∀ p x, f p x = F x) (hF : a.ordered = true ∨ ∀ x y, x.Perm y → (F x).Perm (F y)) :
    Sim { a with rows := imap f a.rows } (mapShards b F) where
  ord := h.ord
  rows := imap_eq_map hf _ ▸ h.rows.map (RowsSim.congr F hF)

theorem shuffle_sim (σ : Strategy) (hσ : σ.Valid) (i : Nat) {n : Nat} {f : KV → Nat} {o : Bool} {G : List KV → List KV}
    (hG : ∀ x y, x.Perm y → RowsSim o (G x) (G y)) {a b : Shards} (h : Sim a b) :
    Sim ⟨(List.range n).map fun p => G (arrive σ i 0 f a.rows p).flatten, o⟩
      ⟨(List.range n).map fun p => G (partOf f b.rows p), o⟩ :=
  ⟨rfl, All2.map_same fun p => hG _ _ (arrive_perm σ hσ i 0 f p h.flatten_perm)⟩

end BS.Exec
