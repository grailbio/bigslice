import BS.Proofs.Merge
import BS.Proofs.ListSet
/-! The plain merge reader machine `BS.Merge.mrun`: for every legal choice of the cursor to pop, the output is
sorted by key and a permutation of everything the (sorted) streams hold. -/
namespace BS.Merge
open BS.KV

/-- Among the streams `r :: t` is exchanged for `t` (`perm_set`); flattened, both sides begin with `t`, which cancels. -/
theorem popAt_perm {ss : List (List KV)} {i : Nat} {r : KV} {t : List KV} (h : ss[i]? = some (r :: t)) :
    ss.flatten.Perm (r :: (ss.set i t).flatten) :=
  (List.perm_append_left_iff t).mp ((perm_set h t).flatten.symm.trans List.perm_middle.symm)

theorem set_sorted {ss : List (List KV)} (hs : AllSorted ss) {i : Nat} {r : KV} {t : List KV}
    (h : ss[i]? = some (r :: t)) : AllSorted (ss.set i t) := by
  intro s hsm
  rcases List.mem_or_eq_of_mem_set hsm with h1 | rfl
  · exact hs s h1
  · exact (sorted_cons.mp (hs _ (List.mem_of_getElem? h))).2

theorem mrun_spec (choose : List (List KV) → Nat) (hch : ∀ ss, minKey ss ≠ none → Legal ss (choose ss))
    (fuel : Nat) (ss : List (List KV)) (hs : AllSorted ss) (hl : ss.flatten.length ≤ fuel) :
    (mrun choose fuel ss).Perm ss.flatten ∧ Sorted (mrun choose fuel ss) := by
  induction fuel generalizing ss with
  | zero =>
    rw [List.eq_nil_of_length_eq_zero (Nat.le_zero.mp hl)]
    exact ⟨.refl _, .nil⟩
  | succ fuel ih =>
    cases hm : minKey ss with
    | none => rw [mrun, hm, minKey_none hm]; exact ⟨.refl _, .nil⟩
    | some k =>
      -- the popped row is `≤` everything left (`minKey_le`); the rest is a permutation (`popAt_perm`) and stays sorted
      obtain ⟨r, t, hget, hmin⟩ := hch ss (hm ▸ Option.some_ne_none k)
      have hperm := popAt_perm hget
      obtain ⟨ihp, ihs⟩ := ih _ (set_sorted hs hget) (Nat.le_of_succ_le_succ (hperm.length_eq ▸ hl :))
      simp only [mrun, hm, popAt, hget]
      refine ⟨(ihp.cons r).trans hperm.symm, sorted_cons.mpr ⟨fun x hx => ?_, ihs⟩⟩
      obtain rfl : k = r.1 := Option.some.inj (hm.symm.trans hmin)
      exact minKey_le hs hm x (hperm.symm.subset (.tail _ (ihp.subset hx)))

theorem leftmost_legal (ss : List (List KV)) (h : minKey ss ≠ none) : Legal ss (leftmost ss) := by
  obtain ⟨k, hm⟩ := Option.ne_none_iff_exists'.mp h
  obtain ⟨v, t, hmem⟩ := (minKey_some hm).1
  let p : List KV → Bool := fun | (k', _) :: _ => k' == k | [] => false
  have hf := List.findIdx?_eq_some_of_exists (p := p) ⟨_, hmem, beq_self_eq_true k⟩
  rw [leftmost, hm]
  show Legal ss ((ss.findIdx? p).getD 0)
  rw [hf]
  -- `p` holds of the stream found; for `none` and `some []` that reads `false = true`: the match needs no alternative for them
  match hsi : ss[ss.findIdx p]?, List.of_findIdx?_eq_some hf with
  | some ((k', v') :: t'), hp => exact ⟨(k', v'), t', hsi, by rw [hm, eq_of_beq hp]⟩

end BS.Merge
