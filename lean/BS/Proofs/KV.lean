import BS.Model.KV
/-!
Facts about the keyed fold (BS.Model.KV).  Two insertions commute when `comb` is commutative and associative: hence `foldMap`
does not depend on the order of the rows.  A strictly sorted list is read as a finite map with `List.lookup`
(`mem_iff_lookup`, `lookup_insertKV`): that is how Proofs/Table says what the hash table holds.
-/
namespace BS.KV

theorem strictSorted_cons {a : KV} {l : List KV} : StrictSorted (a :: l) ↔ (∀ x ∈ l, a.1 < x.1) ∧ StrictSorted l :=
  List.pairwise_cons

theorem sorted_cons {a : KV} {l : List KV} : Sorted (a :: l) ↔ (∀ x ∈ l, a.1 ≤ x.1) ∧ Sorted l :=
  List.pairwise_cons

theorem StrictSorted.sorted {l : List KV} (h : StrictSorted l) : Sorted l :=
  List.Pairwise.imp Int.le_of_lt h

theorem StrictSorted.nodup {l : List KV} (h : StrictSorted l) : l.Nodup :=
  List.Pairwise.imp (fun hab heq => Int.ne_of_lt hab (congrArg Prod.fst heq)) h

/-- below the head of a strictly sorted list, below all of it -/
theorem StrictSorted.lt_of_lt_head {k : Int} {a : KV} {l : List KV} (h : StrictSorted (a :: l)) (hlt : k < a.1) :
    ∀ x ∈ a :: l, k < x.1 :=
  List.forall_mem_cons.mpr ⟨hlt, fun x hx => Int.lt_trans hlt ((strictSorted_cons.mp h).1 x hx)⟩

section
variable {comb : Int → Int → Int} {k v k' v' : Int} {r : List KV}

theorem insertKV_cons_lt (h : k < k') : insertKV comb k v ((k', v') :: r) = (k, v) :: (k', v') :: r := if_pos h
theorem insertKV_cons_eq : insertKV comb k v ((k, v') :: r) = (k, comb v' v) :: r := by
  rw [insertKV, if_neg (Int.lt_irrefl _), if_pos rfl]
theorem insertKV_cons_gt (h : k' < k) : insertKV comb k v ((k', v') :: r) = (k', v') :: insertKV comb k v r := by
  rw [insertKV, if_neg (Int.lt_asymm h), if_neg (Int.ne_of_gt h)]

end

theorem mem_insertKV {comb} {k v : Int} {m : List KV} {x : KV} (h : x ∈ insertKV comb k v m) : x.1 = k ∨ x ∈ m := by
  fun_induction insertKV comb k v m with
  | case1 => exact .inl (by rw [List.mem_singleton.mp h])
  | case2 k' v' r _ => exact (List.mem_cons.mp h).imp (fun e => by rw [e]) id
  | case3 v' r _ => exact (List.mem_cons.mp h).imp (fun e => by rw [e]) (List.mem_cons_of_mem _)
  | case4 k' v' r _ _ ih =>
    rcases List.mem_cons.mp h with rfl | h
    · exact .inr List.mem_cons_self
    · exact (ih h).imp id (List.mem_cons_of_mem _)

theorem insertKV_strictSorted {comb} {k v : Int} {m : List KV} (h : StrictSorted m) :
    StrictSorted (insertKV comb k v m) := by
  fun_induction insertKV comb k v m with
  | case1 => exact List.pairwise_singleton _ _
  | case2 k' v' r hlt =>
    exact strictSorted_cons.mpr ⟨h.lt_of_lt_head hlt, h⟩
  | case3 v' r _ => exact strictSorted_cons.mpr ((strictSorted_cons (a := (k, v'))).mp h)
  | case4 k' v' r hlt hne ih =>
    obtain ⟨h1, h2⟩ := strictSorted_cons.mp h
    refine strictSorted_cons.mpr ⟨fun a ha => ?_, ih h2⟩
    rcases mem_insertKV ha with e | ha
    · rw [e]; exact Int.lt_iff_le_and_ne.mpr ⟨Int.not_lt.mp hlt, Ne.symm hne⟩
    · exact h1 a ha

theorem lookup_cons (k v k' : Int) (m : List KV) :
    ((k, v) :: m).lookup k' = if k' = k then some v else m.lookup k' := by
  by_cases h : k' = k
  · rw [h, List.lookup_cons_self, if_pos rfl]
  · rw [List.lookup_cons, beq_false_of_ne h, if_neg h]

theorem lookup_eq_none_of_lt {k : Int} {m : List KV} (h : ∀ x ∈ m, k < x.1) : m.lookup k = none :=
  List.lookup_eq_none_iff.mpr fun p hp => bne_iff_ne.mpr (Int.ne_of_lt (h p hp))

theorem mem_iff_lookup {m : List KV} (hm : StrictSorted m) {k v : Int} : (k, v) ∈ m ↔ m.lookup k = some v := by
  -- `lookup` finds the first row with key `k`; in a strictly sorted list the rows in front of `(k, v)` have smaller keys
  rw [List.lookup_eq_some_iff, List.mem_iff_append]
  refine exists_congr fun s => exists_congr fun t => iff_self_and.mpr ?_
  rintro rfl p hp
  exact bne_iff_ne.mpr (Int.ne_of_gt ((List.pairwise_append.mp hm).2.2 p hp _ (.head t)))

theorem lookup_insertKV {comb} {k v : Int} {m : List KV} (hm : StrictSorted m) (k' : Int) :
    (insertKV comb k v m).lookup k' = if k' = k then some ((m.lookup k).elim v (comb · v)) else m.lookup k' := by
  fun_induction insertKV comb k v m with
  | case1 => rw [lookup_cons]; rfl
  | case2 kp vp r hlt =>
    rw [lookup_cons, lookup_eq_none_of_lt (hm.lt_of_lt_head hlt)]
    rfl
  | case3 vp r _ =>
    rw [lookup_cons, List.lookup_cons_self, lookup_cons]
    by_cases h : k' = k
    · rw [if_pos h, if_pos h]; rfl
    · rw [if_neg h, if_neg h, if_neg h]
  | case4 kp vp r _ hne ih =>
    rw [lookup_cons, ih (strictSorted_cons.mp hm).2, lookup_cons kp vp k, if_neg hne, lookup_cons]
    by_cases h : k' = kp
    · rw [if_pos h, if_pos h, if_neg (h ▸ Ne.symm hne)]
    · rw [if_neg h, if_neg h]

/-- if each of two rows goes in front of `r`, inserting them on top of `r` in either order agrees -/
theorem insertKV_comm_front {comb : Int → Int → Int} (hc : ∀ a b, comb a b = comb b a) {k₁ v₁ k₂ v₂ : Int} {r : List KV}
    (h₁ : insertKV comb k₁ v₁ r = (k₁, v₁) :: r) (h₂ : insertKV comb k₂ v₂ r = (k₂, v₂) :: r) :
    insertKV comb k₁ v₁ ((k₂, v₂) :: r) = insertKV comb k₂ v₂ ((k₁, v₁) :: r) := by
  rcases Int.lt_trichotomy k₁ k₂ with hlt | rfl | hgt
  · rw [insertKV_cons_lt hlt, insertKV_cons_gt hlt, h₂]
  · rw [insertKV_cons_eq, insertKV_cons_eq, hc]
  · rw [insertKV_cons_gt hgt, insertKV_cons_lt hgt, h₁]

theorem insertKV_comm (comb : Int → Int → Int) (hc : ∀ a b, comb a b = comb b a)
    (ha : ∀ a b c, comb (comb a b) c = comb a (comb b c)) (k₁ v₁ k₂ v₂ : Int) (m : List KV) :
    insertKV comb k₁ v₁ (insertKV comb k₂ v₂ m) = insertKV comb k₂ v₂ (insertKV comb k₁ v₁ m) := by
  induction m with
  | nil => exact insertKV_comm_front hc rfl rfl
  | cons p ps ih =>
    obtain ⟨k', v'⟩ := p
    -- the order of `k₁` and of `k₂` against the head key `k'` determines both sides
    rcases Int.lt_trichotomy k₁ k' with lt₁ | eq₁ | gt₁ <;> rcases Int.lt_trichotomy k₂ k' with lt₂ | eq₂ | gt₂
    · rw [insertKV_cons_lt lt₁, insertKV_cons_lt lt₂]
      exact insertKV_comm_front hc (insertKV_cons_lt lt₁) (insertKV_cons_lt lt₂)
    · subst eq₂; simp only [insertKV_cons_lt, insertKV_cons_eq, insertKV_cons_gt, lt₁]
    · simp only [insertKV_cons_lt, insertKV_cons_gt, lt₁, gt₂, Int.lt_trans lt₁ gt₂]
    · subst eq₁; simp only [insertKV_cons_lt, insertKV_cons_eq, insertKV_cons_gt, lt₂]
    · subst eq₁; subst eq₂; simp only [insertKV_cons_eq, ha, hc v₂ v₁]
    · subst eq₁; simp only [insertKV_cons_eq, insertKV_cons_gt, gt₂]
    · simp only [insertKV_cons_lt, insertKV_cons_gt, gt₁, lt₂, Int.lt_trans lt₂ gt₁]
    · subst eq₂; simp only [insertKV_cons_eq, insertKV_cons_gt, gt₁]
    · simp only [insertKV_cons_gt, gt₁, gt₂, ih]

theorem foldl_insert_comm (comb) (hc : ∀ a b, comb a b = comb b a) (ha : ∀ a b c, comb (comb a b) c = comb a (comb b c))
    (rows : List KV) (k v : Int) (m : List KV) :
    rows.foldl (fun m r => insertKV comb r.1 r.2 m) (insertKV comb k v m)
      = insertKV comb k v (rows.foldl (fun m r => insertKV comb r.1 r.2 m) m) :=
  List.foldl_hom (insertKV comb k v) fun m r => insertKV_comm comb hc ha r.1 r.2 k v m

section
variable (comb : Int → Int → Int)

theorem foldMap_strictSorted (rows : List KV) : StrictSorted (foldMap comb rows) :=
  List.foldlRecOn rows _ List.Pairwise.nil fun _ hm _ _ => insertKV_strictSorted hm

/-- the fold does not depend on the arrival order (commutative, associative combiner) -/
theorem foldMap_perm (hc : ∀ a b, comb a b = comb b a) (ha : ∀ a b c, comb (comb a b) c = comb a (comb b c))
    (l₁ l₂ : List KV) (h : l₁.Perm l₂) : foldMap comb l₁ = foldMap comb l₂ :=
  h.foldl_eq' (fun x _ y _ m => insertKV_comm comb hc ha y.1 y.2 x.1 x.2 m) []

theorem foldl_insert_head {k a : Int} {rest acc : List KV} (h : ∀ x ∈ rest, k < x.1) :
    rest.foldl (fun m r => insertKV comb r.1 r.2 m) ((k, a) :: acc) =
      (k, a) :: rest.foldl (fun m r => insertKV comb r.1 r.2 m) acc :=
  List.foldl_rel (r := fun m m' => m = (k, a) :: m') rfl fun x hx _ _ e => e ▸ insertKV_cons_gt (h x hx)

theorem foldMap_idem {m : List KV} (hm : StrictSorted m) : foldMap comb m = m := by
  induction m with
  | nil => rfl
  | cons r rs ih =>
    obtain ⟨h1, h2⟩ := strictSorted_cons.mp hm
    exact (foldl_insert_head comb h1).trans (congrArg _ (ih h2))

theorem foldMap_append (xs ys : List KV) :
    foldMap comb (xs ++ ys) = ys.foldl (fun m r => insertKV comb r.1 r.2 m) (foldMap comb xs) :=
  List.foldl_append

theorem foldMap_append_congr (hc : ∀ a b, comb a b = comb b a) (ha : ∀ a b c, comb (comb a b) c = comb a (comb b c))
    {xs xs' ys ys' : List KV} (hx : foldMap comb xs = foldMap comb xs') (hy : foldMap comb ys = foldMap comb ys') :
    foldMap comb (xs ++ ys) = foldMap comb (xs' ++ ys') := by
  -- `foldMap_append` shows the fold of the first part: replace `xs`, swap the parts, replace `ys`, swap back
  rw [foldMap_append, hx, ← foldMap_append, foldMap_perm comb hc ha _ _ List.perm_append_comm,
    foldMap_append, hy, ← foldMap_append, foldMap_perm comb hc ha _ _ List.perm_append_comm]

end

end BS.KV
