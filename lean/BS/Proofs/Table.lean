import BS.Model.Table
import BS.Proofs.Probe
import BS.Proofs.KV
import Mathlib.Data.Fintype.Card
/-!
Proofs about the combining frame's hash table (BS.Model.Table): the probe sequence visits every slot, so the probe
loop terminates at the key's slot or at an empty slot; `insert` maintains the table invariant and acts on the
key ↦ value map like `insertKV` acts on the keyed fold.
-/
namespace BS.Table
open BS.KV

/-- distinct tries below the capacity probe distinct slots (capacity a power of two) -/
theorem pidx_inj (h : Int → Nat) (m : Nat) (k : Int) (i j : Nat) (hi : i < 2 ^ m) (hj : j < 2 ^ m)
    (he : pidx h (2 ^ m) k i = pidx h (2 ^ m) k j) : i = j :=
  BS.Probe.tri_mod_inj m (h k) i j hi hj he

/-- an injective map of `range (2^m)` into itself is onto -/
theorem pidx_surj (h : Int → Nat) (m : Nat) (k : Int) (e : Nat) (he : e < 2 ^ m) : ∃ t, t < 2 ^ m ∧ pidx h (2 ^ m) k t = e := by
  obtain ⟨t, ht, hte⟩ := Finset.surj_on_of_inj_on_of_card_le (s := Finset.range (2 ^ m)) (t := Finset.range (2 ^ m))
    (fun t _ => pidx h (2 ^ m) k t) (fun t _ => Finset.mem_range.mpr (Nat.mod_lt _ (Nat.two_pow_pos m)))
    (fun a b ha hb => pidx_inj h m k a b (Finset.mem_range.mp ha) (Finset.mem_range.mp hb)) (Nat.le_refl _)
    e (Finset.mem_range.mpr he)
  exact ⟨t, Finset.mem_range.mp ht, hte.symm⟩

def occ (tb : T) : Nat := ((Finset.range tb.cap).filter fun j => (tb.slots j).isSome).card

/-- the table invariant; `reach`: every entry is reachable from its key's first probe through slots holding other keys
(no deletion ever punches a hole into a probe path) -/
structure Inv (h : Int → Nat) (tb : T) : Prop where
  pow : ∃ m, tb.cap = 2 ^ m
  bound : ∀ i, tb.cap ≤ i → tb.slots i = none
  uniq : ∀ i j a b, tb.slots i = some a → tb.slots j = some b → a.1 = b.1 → i = j
  reach : ∀ s a, tb.slots s = some a → ∃ t, t < tb.cap ∧ pidx h tb.cap a.1 t = s ∧
    ∀ t', t' < t → ∃ b, tb.slots (pidx h tb.cap a.1 t') = some b ∧ b.1 ≠ a.1
  lenok : tb.len = occ tb

def HasFree (tb : T) : Prop := ∃ e, e < tb.cap ∧ tb.slots e = none

/-- try `t` of `k`'s probe path meets a slot that holds another key: the probe goes on -/
def Other (h : Int → Nat) (tb : T) (k : Int) (t : Nat) : Prop :=
  ∃ b, tb.slots (pidx h tb.cap k t) = some b ∧ b.1 ≠ k

def Has (tb : T) (k v : Int) : Prop := ∃ s, tb.slots s = some (k, v)

variable {h : Int → Nat} {tb : T} (comb : Int → Int → Int)

theorem probe_step {k : Int} (fuel : Nat) {t : Nat} (ho : Other h tb k t) :
    probe h tb k (fuel + 1) t = probe h tb k fuel (t + 1) := by
  obtain ⟨b, hb, hbk⟩ := ho
  simp only [probe, hb, if_neg hbk]

theorem probe_stop {k : Int} (fuel : Nat) {t : Nat} (hno : ¬ Other h tb k t) :
    probe h tb k (fuel + 1) t = some (pidx h tb.cap k t, (tb.slots (pidx h tb.cap k t)).isNone) := by
  cases hs : tb.slots (pidx h tb.cap k t) with
  | none => simp only [probe, hs]; rfl
  | some kv =>
    have hk : kv.1 = k := not_not.mp fun hne => hno ⟨kv, hs, hne⟩
    simp only [probe, hs, if_pos hk]; rfl

theorem probe_stops_at {k : Int} {t1 : Nat} (hall : ∀ t', t' < t1 → Other h tb k t') (hno : ¬ Other h tb k t1)
    (fuel t : Nat) (h1 : t ≤ t1) (h2 : t1 < t + fuel) :
    probe h tb k fuel t = some (pidx h tb.cap k t1, (tb.slots (pidx h tb.cap k t1)).isNone) := by
  induction fuel generalizing t with
  | zero => exact absurd h2 (Nat.not_lt.mpr h1)
  | succ fuel ih =>
    rcases Nat.eq_or_lt_of_le h1 with rfl | hlt
    · exact probe_stop fuel hno
    · rw [probe_step fuel (hall t hlt)]
      exact ih (t + 1) hlt (by rw [Nat.add_right_comm]; exact h2)

/-- Of the invariant, termination needs the capacity only: the probe sequence reaches the free slot. -/
theorem probe_terminates (k : Int) (hp : ∃ m, tb.cap = 2 ^ m) (hf : HasFree tb) :
    ∃ t1, t1 < tb.cap ∧ (∀ t', t' < t1 → Other h tb k t') ∧ ¬ Other h tb k t1 ∧
      probe h tb k tb.cap 0 = some (pidx h tb.cap k t1, (tb.slots (pidx h tb.cap k t1)).isNone) := by
  obtain ⟨m, hm⟩ := hp
  obtain ⟨e, he, hes⟩ := hf
  obtain ⟨te, hte, hpe⟩ := pidx_surj h m k e (hm ▸ he)
  rw [← hm] at hte hpe
  -- try `te < cap` reaches the free slot; take the first try that does not meet another key
  have hno : ¬ Other h tb k te := fun ⟨b, hb, _⟩ => by rw [hpe, hes] at hb; cases hb
  classical
  have hex : ∃ t, ¬ Other h tb k t := ⟨te, hno⟩
  have hlt : Nat.find hex < tb.cap := (Nat.find_le hno).trans_lt hte
  have hall : ∀ t', t' < Nat.find hex → Other h tb k t' := fun t' ht' => not_not.mp (Nat.find_min hex ht')
  exact ⟨_, hlt, hall, Nat.find_spec hex,
    probe_stops_at hall (Nat.find_spec hex) tb.cap 0 (Nat.zero_le _) ((Nat.zero_add _).symm ▸ hlt)⟩

/-- the probe loop terminates, at the key's slot or at the first empty slot of the key's probe path -/
theorem probe_spec (h : Int → Nat) (tb : T) (k : Int) (hi : Inv h tb) (hf : HasFree tb) :
    ∃ t1, t1 < tb.cap ∧ (∀ t', t' < t1 → Other h tb k t') ∧ ¬ Other h tb k t1 ∧
      probe h tb k tb.cap 0 = some (pidx h tb.cap k t1, (tb.slots (pidx h tb.cap k t1)).isNone) :=
  probe_terminates k hi.pow hf

theorem cap_pos (hi : Inv h tb) : 0 < tb.cap := by
  obtain ⟨m, hm⟩ := hi.pow; rw [hm]; exact Nat.two_pow_pos m

theorem upd_same {s : Nat → Option KV} {i : Nat} {x : KV} : upd s i x i = some x := if_pos rfl
theorem upd_other {s : Nat → Option KV} {i j : Nat} {x : KV} (hj : j ≠ i) : upd s i x j = s j := if_neg hj

theorem entries_length : (entries tb).length = occ tb := by
  -- `Finset.card` of a filtered `Finset.range` unfolds to the length of a filtered `List.range`
  show _ = ((List.range tb.cap).filter fun j => decide ((tb.slots j).isSome = true)).length
  simp [entries, List.length_filterMap_eq_countP, List.countP_eq_length_filter]

theorem hasFree_of_occ_lt (hocc : occ tb < tb.cap) : HasFree tb := by
  rw [← entries_length, entries] at hocc
  obtain ⟨e, he, hes⟩ := List.length_filterMap_lt_length_iff_exists.mp (hocc.trans_eq List.length_range.symm)
  exact ⟨e, List.mem_range.mp he, hes⟩

theorem occ_write {tb' : T} {i : Nat} {x : KV} (hcap : tb'.cap = tb.cap) (hslots : tb'.slots = upd tb.slots i x)
    (hi : i < tb.cap) : occ tb' = if tb.slots i = none then occ tb + 1 else occ tb := by
  have : ((Finset.range tb.cap).filter fun j => (upd tb.slots i x j).isSome) =
      Insert.insert i ((Finset.range tb.cap).filter fun j => (tb.slots j).isSome) := by
    ext j
    rw [Finset.mem_insert, Finset.mem_filter, Finset.mem_filter, Finset.mem_range]
    by_cases hj : j = i
    · rw [hj, upd_same]; exact iff_of_true ⟨hi, rfl⟩ (Or.inl rfl)
    · rw [upd_other hj]; exact (or_iff_right hj).symm
  unfold occ
  rw [hcap, hslots, this, Finset.card_insert_eq_ite]
  cases hs : tb.slots i <;> simp [hi, hs]

/-- both branches of `combine` (exec/combiner.go:156-167) at once: the row is written to the slot where the probe stopped,
its value combined with the value found there, if any -/
theorem insert_eq {r : KV} {i : Nat} (hp : probe h tb r.1 tb.cap 0 = some (i, (tb.slots i).isNone)) :
    insert comb h tb r = some ⟨tb.cap, upd tb.slots i (r.1, ((tb.slots i).map (·.2)).elim r.2 (comb · r.2)),
      if tb.slots i = none then tb.len + 1 else tb.len⟩ := by
  cases hs : tb.slots i <;> simp [insert, hp, hs]

theorem has_at_probe (hi : Inv h tb) {k : Int} {t1 : Nat} (hall : ∀ t', t' < t1 → Other h tb k t')
    (hno : ¬ Other h tb k t1) {s : Nat} {a : KV} (hs : tb.slots s = some a) (hk : a.1 = k) :
    s = pidx h tb.cap k t1 := by
  subst hk
  obtain ⟨t, _, hpt, hpath⟩ := hi.reach s a hs
  rcases Nat.lt_trichotomy t t1 with hlt | heq | hgt
  · obtain ⟨b, hb, hbk⟩ := hall t hlt
    rw [hpt, hs] at hb
    cases hb; exact absurd rfl hbk
  · rw [← hpt, heq]
  · exact absurd (hpath t1 hgt) hno

/-- The slot where the probe for `k` stops is empty or holds `k` already (`hno`); the two cases differ in `len` only. -/
theorem write_spec (hi : Inv h tb) {k v : Int} {t1 : Nat} (ht1 : t1 < tb.cap)
    (hall : ∀ t', t' < t1 → Other h tb k t') (hno : ¬ Other h tb k t1) {tb' : T} (hcap : tb'.cap = tb.cap)
    (hslots : tb'.slots = upd tb.slots (pidx h tb.cap k t1) (k, v))
    (hlen : tb'.len = if tb.slots (pidx h tb.cap k t1) = none then tb.len + 1 else tb.len) :
    Inv h tb' ∧ ∀ k' v', Has tb' k' v' ↔ if k' = k then v' = v else Has tb k' v' := by
  have hilt : pidx h tb.cap k t1 < tb.cap := Nat.mod_lt _ (cap_pos hi)
  have hslot : ∀ s x, tb'.slots s = some x →
      s = pidx h tb.cap k t1 ∧ x = (k, v) ∨ tb.slots s = some x ∧ x.1 ≠ k := by
    intro s x hs
    rw [hslots] at hs
    by_cases hsi : s = pidx h tb.cap k t1
    · rw [hsi, upd_same] at hs
      exact .inl ⟨hsi, (Option.some.inj hs).symm⟩
    · rw [upd_other hsi] at hs
      exact .inr ⟨hs, fun hk => hsi (has_at_probe hi hall hno hs hk)⟩
  -- the written slot held no key other than `k`, so a try that met another key still does
  have hother : ∀ k' t', Other h tb k' t' → ∃ b, tb'.slots (pidx h tb.cap k' t') = some b ∧ b.1 ≠ k' := by
    rintro k' t' ⟨b, hb, hbk⟩
    rw [hslots]
    by_cases hp : pidx h tb.cap k' t' = pidx h tb.cap k t1
    · rw [hp, upd_same]
      refine ⟨_, rfl, fun (hkk : k = k') => ?_⟩
      subst hkk
      exact hno ⟨b, hp ▸ hb, hbk⟩
    · rw [upd_other hp]
      exact ⟨b, hb, hbk⟩
  refine ⟨{ pow := hcap ▸ hi.pow, bound := ?bound, uniq := ?uniq, reach := ?reach, lenok := ?lenok }, ?has⟩
  case bound =>
    intro j hj
    rw [hcap] at hj
    rw [hslots, upd_other (Nat.ne_of_gt (hilt.trans_le hj))]
    exact hi.bound j hj
  case uniq =>
    intro a b x y ha hb hxy
    rcases hslot a x ha with ⟨rfl, rfl⟩ | ⟨ha', hxk⟩ <;> rcases hslot b y hb with ⟨rfl, rfl⟩ | ⟨hb', hyk⟩
    · rfl
    · exact absurd hxy.symm hyk
    · exact absurd hxy hxk
    · exact hi.uniq a b x y ha' hb' hxy
  case reach =>
    intro s a hs
    rw [hcap]
    rcases hslot s a hs with ⟨rfl, rfl⟩ | ⟨hs', _⟩
    · exact ⟨t1, ht1, rfl, fun t' ht' => hother k t' (hall t' ht')⟩
    · obtain ⟨t, ht, hpt, hpath⟩ := hi.reach s a hs'
      exact ⟨t, ht, hpt, fun t' ht' => hother a.1 t' (hpath t' ht')⟩
  case lenok =>
    rw [occ_write hcap hslots hilt, ← hi.lenok]
    exact hlen
  case has =>
    intro k' v'
    constructor
    · rintro ⟨s, hs⟩
      rcases hslot s _ hs with ⟨_, hx⟩ | ⟨hs', hk⟩
      · cases hx; rw [if_pos rfl]
      · rw [if_neg hk]; exact ⟨s, hs'⟩
    · split
      next hk =>
        rintro rfl
        exact ⟨pidx h tb.cap k t1, by rw [hslots, upd_same, hk]⟩
      next hk =>
        rintro ⟨s, hs⟩
        have hsi : s ≠ pidx h tb.cap k t1 := by rintro rfl; exact hno ⟨_, hs, hk⟩
        exact ⟨s, by rw [hslots, upd_other hsi]; exact hs⟩

/-- The caller names the value `old` the table holds for the row's key (`hold`), so that both cases of `insert` — key
absent, key present — are one statement. -/
theorem insert_spec (comb : Int → Int → Int) (h : Int → Nat) (tb : T) (r : KV) (hi : Inv h tb) (hf : HasFree tb)
    (old : Option Int) (hold : ∀ v0, Has tb r.1 v0 ↔ old = some v0) :
    ∃ tb', insert comb h tb r = some tb' ∧ Inv h tb' ∧ tb'.cap = tb.cap ∧
      tb'.len = (if old = none then tb.len + 1 else tb.len) ∧
      ∀ k v, Has tb' k v ↔ if k = r.1 then v = old.elim r.2 (comb · r.2) else Has tb k v := by
  obtain ⟨t1, ht1, hall, hno, hp⟩ := probe_spec h tb r.1 hi hf
  -- `old` is what the slot where the probe stops holds: a slot that holds the key is that slot, and that slot holds no other key
  obtain rfl : old = (tb.slots (pidx h tb.cap r.1 t1)).map (·.2) := by
    refine Option.ext fun v => (hold v).symm.trans ⟨fun ⟨s, hs⟩ => ?_, fun hv => ?_⟩
    · rw [← has_at_probe hi hall hno hs rfl, hs]; rfl
    · obtain ⟨a, ha, rfl⟩ := Option.map_eq_some_iff.mp hv
      have hk : a.1 = r.1 := not_not.mp fun hne => hno ⟨a, ha, hne⟩
      exact ⟨_, by rw [ha, ← hk]⟩
  refine ⟨_, insert_eq comb hp, ?_⟩
  obtain ⟨hinv, hhas⟩ := write_spec hi ht1 hall hno (tb' := ⟨tb.cap, upd tb.slots _ (r.1, _), _⟩) rfl rfl rfl
  exact ⟨hinv, rfl, by simp only [Option.map_eq_none_iff], hhas⟩

def Repr (tb : T) (m : List KV) : Prop := ∀ k v, Has tb k v ↔ (k, v) ∈ m

theorem repr_insert (comb : Int → Int → Int) (h : Int → Nat) (tb : T) (r : KV) (m : List KV) (hi : Inv h tb) (hf : HasFree tb)
    (hm : StrictSorted m) (hr : Repr tb m) :
    ∃ tb', insert comb h tb r = some tb' ∧ Inv h tb' ∧ tb'.cap = tb.cap ∧
      tb'.len = (if m.lookup r.1 = none then tb.len + 1 else tb.len) ∧ Repr tb' (insertKV comb r.1 r.2 m) := by
  obtain ⟨tb', hins, hinv, hcap, hlen, hhas⟩ := insert_spec comb h tb r hi hf (m.lookup r.1)
    fun v0 => (hr r.1 v0).trans (mem_iff_lookup hm)
  refine ⟨tb', hins, hinv, hcap, hlen, fun k v => ?_⟩
  rw [hhas, mem_iff_lookup (insertKV_strictSorted hm), lookup_insertKV hm]
  split
  · exact ⟨fun hv => hv ▸ rfl, fun hv => (Option.some.inj hv).symm⟩
  · exact (hr k v).trans (mem_iff_lookup hm)

theorem mem_entries (hi : Inv h tb) (k v : Int) : (k, v) ∈ entries tb ↔ Has tb k v := by
  rw [entries, List.mem_filterMap]
  constructor
  · rintro ⟨s, _, hs⟩; exact ⟨s, hs⟩
  · rintro ⟨s, hs⟩
    refine ⟨s, List.mem_range.mpr (Nat.lt_of_not_le fun hge => ?_), hs⟩
    rw [hi.bound s hge] at hs; cases hs

theorem entries_keys (hi : Inv h tb) : (entries tb).Pairwise fun a b => a.1 ≠ b.1 :=
  List.Pairwise.filterMap tb.slots (fun i j hij a ha b hb hab => hij (hi.uniq i j a b ha hb hab)) List.nodup_range

theorem entries_nodup (hi : Inv h tb) : (entries tb).Nodup :=
  (entries_keys hi).imp fun hab he => hab (congrArg Prod.fst he)

theorem not_has_empty {c : Nat} {k v : Int} : ¬ Has (empty c) k v := fun ⟨_, hs⟩ => nomatch hs

theorem inv_empty (m : Nat) : Inv h (empty (2 ^ m)) where
  pow := ⟨m, rfl⟩
  bound _ _ := rfl
  uniq _ _ _ _ ha := nomatch ha
  reach _ _ ha := nomatch ha
  lenok := by simp [empty, occ]

theorem rehashInto_cons (e : KV) (es : List KV) (tb : T) :
    rehashInto comb h (e :: es) tb = (insert comb h tb e).bind (rehashInto comb h es) := by
  unfold rehashInto
  rw [List.foldl_cons, Option.bind_some]
  cases insert comb h tb e with
  | some t => rfl
  | none => exact List.foldl_fixed' (fun _ => rfl) es  -- once `none`, the fold of `bind`s stays `none`

/-- The loop in `added` (exec/combiner.go:190-204) does not compare keys; `rehashInto` goes through `insert`, which does:
by `habs` every probe ends at an empty slot. -/
theorem rehashInto_spec {es : List KV} (hi : Inv h tb) (hkeys : es.Pairwise fun a b => a.1 ≠ b.1)
    (habs : ∀ a ∈ es, ∀ v, ¬ Has tb a.1 v) (hroom : occ tb + es.length < tb.cap) :
    ∃ tb', rehashInto comb h es tb = some tb' ∧ Inv h tb' ∧ tb'.cap = tb.cap ∧
      (∀ k v, Has tb' k v ↔ (Has tb k v ∨ (k, v) ∈ es)) ∧ tb'.len = tb.len + es.length := by
  induction es generalizing tb with
  | nil => exact ⟨tb, rfl, hi, rfl, fun k v => by simp, rfl⟩
  | cons e es ih =>
    obtain ⟨ke, ve⟩ := e
    obtain ⟨hke, hkeys'⟩ := List.pairwise_cons.mp hkeys
    have habs0 : ∀ v, ¬ Has tb ke v := habs (ke, ve) List.mem_cons_self
    have hfree : HasFree tb := hasFree_of_occ_lt ((Nat.le_add_right _ _).trans_lt hroom)
    obtain ⟨t1, hins, hinv1, hcap1, hlen1, hhas1⟩ := insert_spec comb h tb (ke, ve) hi hfree none
      fun v0 => iff_of_false (habs0 v0) nofun
    rw [if_pos rfl] at hlen1
    have habs1 : ∀ a ∈ es, ∀ v, ¬ Has t1 a.1 v := fun a ha v => by
      rw [hhas1, if_neg (hke a ha).symm]; exact habs a (List.mem_cons_of_mem _ ha) v
    have hroom1 : occ t1 + es.length < t1.cap := by
      rw [← hinv1.lenok, hlen1, hi.lenok, hcap1, Nat.add_right_comm]; exact hroom
    obtain ⟨t2, hre, hinv2, hcap2, hhas2, hlen2⟩ := ih hinv1 hkeys' habs1 hroom1
    refine ⟨t2, ?_, hinv2, hcap2.trans hcap1, fun k v => ?_, ?_⟩
    · rw [rehashInto_cons, hins]; exact hre
    · rw [hhas2, hhas1, List.mem_cons, Prod.mk.injEq]
      by_cases hk : k = ke
      · subst hk
        simp [habs0 v]
      · simp [hk]
    · rw [hlen2, hlen1, Nat.add_right_comm]; rfl

/-- `rehashInto_spec` with the contents of the table given as a list `P` -/
theorem rehash_spec (comb : Int → Int → Int) (h : Int → Nat) :
    ∀ (es : List KV) (tb : T) (P : List KV), Inv h tb → (∀ k v, Has tb k v ↔ (k, v) ∈ P) →
      (∀ a b, a ∈ es → b ∈ es → a.1 = b.1 → a = b) → es.Nodup → (∀ a b, a ∈ es → b ∈ P → a.1 ≠ b.1) →
      occ tb + es.length < tb.cap →
      ∃ tb', rehashInto comb h es tb = some tb' ∧ Inv h tb' ∧ tb'.cap = tb.cap ∧
        (∀ k v, Has tb' k v ↔ ((k, v) ∈ P ∨ (k, v) ∈ es)) ∧ tb'.len = tb.len + es.length := by
  intro es tb P hi hP hkeys hnd hdisj hroom
  obtain ⟨tb', hre, hinv, hcap, hhas, hlen⟩ := rehashInto_spec comb hi
    (hnd.imp_of_mem fun ha hb hne hk => hne (hkeys _ _ ha hb hk))
    (fun a ha v hv => hdisj a _ ha ((hP _ _).mp hv) rfl) hroom
  exact ⟨tb', hre, hinv, hcap, fun k v => by rw [hhas, hP], hlen⟩

/-- the state between two `Combine` calls: the invariant, and the load within the threshold -/
def Good (h : Int → Nat) (tb : T) : Prop := Inv h tb ∧ tb.len ≤ threshold tb.cap

theorem threshold_lt {c : Nat} (hc : 0 < c) : threshold c < c :=
  Nat.div_lt_of_lt_mul (Nat.mul_lt_mul_of_pos_right (by decide) hc)

/-- doubling makes room for the entry that crossed the threshold -/
theorem threshold_double {c : Nat} (hc : 0 < c) : threshold c + 1 ≤ threshold (2 * c) := by
  unfold threshold
  -- `threshold 1 = 0`: capacity 1 is a case of its own
  rcases Nat.eq_or_lt_of_le hc with rfl | hlt
  · decide
  · -- `7c/10 + 1 ≤ 7c/10 + 7c/10 ≤ (7c + 7c)/10`
    have h1 : 1 ≤ 7 * c / 10 := Nat.div_pos (Nat.le_trans (by decide) (Nat.mul_le_mul_left 7 hlt)) (by decide)
    rw [Nat.mul_left_comm, Nat.two_mul]
    exact Nat.le_trans (Nat.add_le_add_left h1 _) Nat.div_add_div_le_add_div

/-- `added` (exec/combiner.go:176-205) after one insertion: the entries stay, the load is within the threshold again -/
theorem grow_spec (hi : Inv h tb) (hlen : tb.len ≤ threshold tb.cap + 1) :
    ∃ tb', grow comb h tb = some tb' ∧ Good h tb' ∧ ∀ k v, Has tb' k v ↔ Has tb k v := by
  unfold grow
  split
  next hle => exact ⟨tb, rfl, ⟨hi, hle⟩, fun _ _ => Iff.rfl⟩
  next =>
    obtain ⟨m, hm⟩ := hi.pow
    have hpos := cap_pos hi
    -- the doubled table is within its threshold, hence has room
    have hle : tb.len ≤ threshold (2 * tb.cap) := hlen.trans (threshold_double hpos)
    have hinvE : Inv h (empty (2 * tb.cap)) := by rw [hm, ← pow_succ']; exact inv_empty (m + 1)
    obtain ⟨t2, hre, hinv2, hcap2, hhas2, hlen2⟩ := rehashInto_spec comb hinvE
      (entries_keys hi) (fun _ _ _ => not_has_empty)
      (by rw [← hinvE.lenok, entries_length, ← hi.lenok]
          exact (Nat.zero_add _).trans_lt (hle.trans_lt (threshold_lt (Nat.mul_pos (by decide) hpos))))
    refine ⟨t2, hre, ⟨hinv2, ?_⟩, fun k v => ?_⟩
    · rw [hlen2, hcap2, entries_length, ← hi.lenok]
      exact (Nat.zero_add _).trans_le hle
    · rw [hhas2, mem_entries hi]
      exact or_iff_right not_has_empty

/-- `combine1` runs `grow` after every insert, the code calls `added` only where a slot was filled
(exec/combiner.go:156-160): when the key was found `len` is still within the threshold and `grow` does nothing -/
theorem combine1_spec (comb : Int → Int → Int) (h : Int → Nat) (tb : T) (r : KV) (m : List KV)
    (hg : Good h tb) (hm : StrictSorted m) (hr : Repr tb m) :
    ∃ tb', combine1 comb h tb r = some tb' ∧ Good h tb' ∧ Repr tb' (insertKV comb r.1 r.2 m) := by
  obtain ⟨hi, hload⟩ := hg
  have hfree : HasFree tb := hasFree_of_occ_lt (hi.lenok ▸ hload.trans_lt (threshold_lt (cap_pos hi)))
  obtain ⟨t1, hins, hinv1, hcap1, hlen1, hrepr1⟩ := repr_insert comb h tb r m hi hfree hm hr
  obtain ⟨t2, hgrow, hgood, hhas⟩ := grow_spec comb hinv1 (by
    rw [hlen1, hcap1]; split
    exacts [Nat.succ_le_succ hload, Nat.le_succ_of_le hload])
  exact ⟨t2, by rw [combine1, hins]; exact hgrow, hgood, fun k v => (hhas k v).trans (hrepr1 k v)⟩

/-- the combining frame computes the keyed fold, whatever the hash function and the rows -/
theorem combineAll_spec (comb : Int → Int → Int) (h : Int → Nat) (rows : List KV) (tb : T) (m : List KV)
    (hg : Good h tb) (hm : StrictSorted m) (hr : Repr tb m) :
    ∃ tb', combineAll comb h tb rows = some tb' ∧ Good h tb' ∧
      Repr tb' (rows.foldl (fun m r => insertKV comb r.1 r.2 m) m) := by
  induction rows generalizing tb m with
  | nil => exact ⟨tb, rfl, hg, hr⟩
  | cons r rows ih =>
    obtain ⟨t1, hc, hg1, hr1⟩ := combine1_spec comb h tb r m hg hm hr
    obtain ⟨t2, hc2, hg2, hr2⟩ := ih t1 _ hg1 (insertKV_strictSorted hm) hr1
    refine ⟨t2, ?_, hg2, hr2⟩
    unfold combineAll at hc2 ⊢
    simp only [List.foldl_cons, Option.bind_some, hc]
    exact hc2

end BS.Table
