import Mathlib.Data.Nat.GCD.Basic
import Mathlib.Tactic.Ring
/-!
Triangular probing (`idx = (idx + try) & c.mask`, exec/combiner.go:170 in `combine`, :201 in `added`) visits
every slot of a power-of-two table: the first `2^k` probe offsets `i(i+1)/2` are
pairwise distinct modulo `2^k`.
-/
namespace BS.Probe

/-- twice the `i`-th triangular number -/
def tri2 (i : Nat) : Nat := i * (i + 1)

theorem odd_coprime_two_pow (a n : Nat) (h : a % 2 = 1) : Nat.Coprime (2 ^ n) a :=
  Nat.Coprime.pow_left n (by rw [Nat.Coprime, Nat.gcd_rec, h]; rfl)

theorem tri2_add (j d : Nat) : tri2 (j + d) = tri2 j + d * (2 * j + d + 1) := by unfold tri2; ring

theorem tri2_half (t : Nat) : 2 * (t * (t + 1) / 2) = tri2 t :=
  Nat.two_mul_div_two_of_even (Nat.even_mul_succ_self t)

theorem tri_inj (k i j : Nat) (hi : i < 2 ^ k) (hj : j < 2 ^ k) (hij : j < i)
    (h : 2 ^ (k + 1) ∣ tri2 i - tri2 j) : False := by
  obtain ⟨d, rfl⟩ := Nat.exists_eq_add_of_le hij.le
  rw [tri2_add, Nat.add_sub_cancel_left] at h
  -- the factors `d` and `2 * j + d + 1 = (j + d) + (j + 1)` are positive and below `2 ^ k + 2 ^ k`, and one of them
  -- is odd: `2 ^ (k + 1)` would have to divide the other
  have hlt : d < 2 ^ (k + 1) ∧ 2 * j + d + 1 < 2 ^ (k + 1) := by
    rw [Nat.pow_succ, Nat.mul_two, Nat.two_mul, Nat.add_right_comm j j d, Nat.add_assoc]
    exact ⟨Nat.lt_add_right _ (Nat.lt_of_le_of_lt (Nat.le_add_left d j) hi), Nat.add_lt_add_of_lt_of_le hi hj⟩
  rcases Nat.mod_two_eq_zero_or_one d with hd | hd
  · have hodd : (2 * j + d + 1) % 2 = 1 := by rw [Nat.succ_mod_two_eq_one_iff, Nat.mul_add_mod, hd]
    exact Nat.not_dvd_of_pos_of_lt (Nat.pos_of_lt_add_right hij) hlt.1
      ((odd_coprime_two_pow _ _ hodd).dvd_of_dvd_mul_right h)
  · exact Nat.not_dvd_of_pos_of_lt (Nat.succ_pos _) hlt.2 ((odd_coprime_two_pow _ _ hd).dvd_of_dvd_mul_left h)

theorem tri_mod_inj (k a i j : Nat) (hi : i < 2 ^ k) (hj : j < 2 ^ k)
    (he : (a + i * (i + 1) / 2) % 2 ^ k = (a + j * (j + 1) / 2) % 2 ^ k) : i = j := by
  by_contra hne
  wlog hij : j < i generalizing i j
  · exact this j i hj hi he.symm (Ne.symm hne) (Nat.lt_of_le_of_ne (Nat.not_lt.mp hij) hne)
  have hd := Nat.dvd_of_mod_eq_zero (Nat.sub_mod_eq_zero_of_mod_eq he)
  rw [Nat.add_sub_add_left] at hd
  refine tri_inj k i j hi hj hij ?_
  rw [← tri2_half i, ← tri2_half j, ← Nat.mul_sub, pow_succ']
  exact Nat.mul_dvd_mul_left 2 hd

end BS.Probe
