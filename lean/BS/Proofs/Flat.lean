import BS.Proofs.Reader
/-!
The inner and the outer loop of a `flatmapReader` read, for `flat_lawful` (BS.Properties.C17).
-/
namespace BS.Reader

theorem flatInner_spec {α β} (g : α → List β) (inb : List α) (room : Nat) (acc : List β) :
    ∃ inb' got outb', flatInner g inb room acc [] = (inb', acc ++ got, outb') ∧
      got ++ outb' ++ inb'.flatMap g = inb.flatMap g ∧ got.length ≤ room ∧
      (got.length < room → inb' = [] ∧ outb' = []) := by
  induction inb generalizing room acc with
  | nil => exact ⟨[], [], [], by simp [flatInner], rfl, Nat.zero_le _, fun _ => ⟨rfl, rfl⟩⟩
  | cons x xs ih =>
    by_cases hr : room = 0
    · exact ⟨x :: xs, [], [], by simp [flatInner, hr], rfl, Nat.zero_le _, fun h => absurd h (hr ▸ Nat.lt_irrefl 0)⟩
    · by_cases hfit : (g x).length ≤ room
      · obtain ⟨inb', got, outb', hi, hsp, hl, hfree⟩ := ih (room - (g x).length) (acc ++ g x)
        exact ⟨inb', g x ++ got, outb', by simp [flatInner, hr, hfit, hi], by simp [← hsp],
          List.length_append ▸ Nat.add_le_of_le_sub' hfit hl,
          fun h => hfree (Nat.lt_sub_iff_add_lt'.2 (List.length_append ▸ h))⟩
      · have hlen := List.length_take_of_le (Nat.le_of_not_le hfit)
        exact ⟨xs, (g x).take room, (g x).drop room, by simp [flatInner, hr, hfit], by simp, Nat.le_of_eq hlen,
          fun h => absurd hlen (Nat.ne_of_lt h)⟩

/-- The rows a flatmap reader still owes: the stash, the buffered inputs, what the upstream still holds. -/
def flatRem {α β} {σ : Type} (g : α → List β) (rem : σ → List α) (s : FlatS σ α β) : List β :=
  s.outb ++ s.inb.flatMap g ++ (if s.eof then [] else (rem s.up).flatMap g)

theorem flatLoop_exit {α β} {U : Rd α} {g : α → List β} {fuel k : Nat} {s : U.σ} {inb : List α} {outb : List β}
    {eof : Bool} {acc : List β} (h : k ≤ acc.length ∨ eof = true ∧ inb = []) :
    flatLoop U g fuel k s inb outb eof acc = (⟨s, inb, outb, eof⟩, acc) := by
  cases fuel with
  | zero => rfl
  | succ n => exact if_pos (by simpa using h)

/-- Entered with a stash only when the destination is already full (the hypothesis; `flatInner` stashes only what did
not fit).  The fuel counts rounds: each reads the upstream, which ends it or lowers `mu + |rem|` (`Step.measure_lt`),
except a first round on inputs buffered by the previous call. -/
theorem flatLoop_spec {α β} {U : Rd α} {rem : U.σ → List α} {mu : U.σ → Nat} (h : Lawful U rem mu)
    (g : α → List β) (fuel k : Nat) (s : U.σ) (inb : List α) (outb : List β) (eof : Bool) (acc : List β)
    (hpre : acc.length < k → outb = []) :
    ∃ s' got, flatLoop U g fuel k s inb outb eof acc = (s', acc ++ got) ∧
      got ++ flatRem g rem s' = flatRem g rem ⟨s, inb, outb, eof⟩ ∧ got.length ≤ k - acc.length ∧
      ((if eof then 0 else mu s + (rem s).length + 1) + (if inb = [] then 0 else 1) < fuel →
        got.length < k - acc.length → (s'.eof && s'.outb.isEmpty && s'.inb.isEmpty) = true) := by
  induction fuel generalizing s inb outb eof acc with
  | zero =>
    exact ⟨⟨s, inb, outb, eof⟩, [], (List.append_nil _).symm ▸ rfl, rfl, Nat.zero_le _, nofun⟩
  | succ fuel ih =>
    by_cases hexit : k ≤ acc.length ∨ eof = true ∧ inb = []
    · refine ⟨⟨s, inb, outb, eof⟩, [], by rw [flatLoop_exit hexit, List.append_nil], rfl,
        Nat.zero_le _, fun _ hlt => ?_⟩
      have hk := Nat.lt_of_sub_pos hlt
      obtain ⟨rfl, rfl⟩ := hexit.resolve_left (Nat.not_le_of_lt hk)
      obtain rfl := hpre hk
      rfl
    · rw [flatLoop, if_neg (by simpa using hexit)]
      obtain ⟨hk, hlive⟩ := not_or.1 hexit
      obtain rfl := hpre (Nat.lt_of_not_le hk)
      -- the model's three `if inb.isEmpty` become `s1`, `inb1`, `eof1`; `hrefill` is all that is needed of them
      dsimp only
      generalize hs1 : (if inb.isEmpty = true then (U.read s k).1 else s) = s1
      generalize hi1 : (if inb.isEmpty = true then (U.read s k).2.1 else inb) = inb1
      generalize he1 : (if inb.isEmpty = true then (U.read s k).2.2 == St.eof else eof) = eof1
      have hrefill : flatRem g rem ⟨s1, inb1, [], eof1⟩ = flatRem g rem ⟨s, inb, [], eof⟩ ∧
          (if eof1 then 0 else mu s1 + (rem s1).length + 1) <
            (if eof then 0 else mu s + (rem s).length + 1) + (if inb = [] then 0 else 1) := by
        subst hs1 hi1 he1
        cases inb with
        | cons x xs => exact ⟨rfl, by simp⟩
        | nil =>
          obtain ⟨s', out, st, hr, hs⟩ := h.step s k
          obtain rfl : eof = false := by simpa using hlive
          rw [hr]
          cases st with
          | eof => simp [flatRem, hs.out_eq]
          | more =>
            exact ⟨by simp [flatRem, ← hs.split],
              by simpa using hs.measure_lt (Nat.zero_lt_of_lt (Nat.lt_of_not_le hk))⟩
      obtain ⟨inb', got, outb', hi, hsp, hl, hfree⟩ := flatInner_spec g inb1 (k - acc.length) acc
      obtain ⟨s', got', hr, hsp', hlen', hdone⟩ := ih s1 inb' outb' eof1 (acc ++ got) fun hlt =>
        (hfree (by rw [List.length_append] at hlt; omega)).2
      rw [List.length_append, Nat.sub_add_eq] at hlen' hdone
      refine ⟨s', got ++ got', by rw [hi, hr, List.append_assoc], ?_, ?_, fun hf hlt => ?_⟩
      · rw [← hrefill.1, List.append_assoc, hsp']
        simp [flatRem, ← hsp]
      · rw [List.length_append]
        exact Nat.add_le_of_le_sub' hl hlen'
      · rw [List.length_append] at hlt
        obtain ⟨rfl, -⟩ := hfree (Nat.lt_of_le_of_lt (Nat.le_add_right _ _) hlt)
        rw [if_pos rfl, Nat.add_zero] at hdone
        exact hdone (Nat.lt_of_lt_of_le hrefill.2 (Nat.le_of_lt_succ hf)) (Nat.lt_sub_iff_add_lt'.2 hlt)

end BS.Reader
