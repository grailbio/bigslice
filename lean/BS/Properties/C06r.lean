import BS.Model.Combine
/-!
# C06 (retries of combining tasks) — "a failure that goes away on retry does not fail the run" *and yields the right rows*

`retry_commits_exactly_one_attempt`: whatever failed attempts precede it and however far each got, the combiners that are
committed hold exactly the rows of the one successful attempt, hence their fold is the fold of the task's rows.
`unrepaired_counts_twice` is the trace of defect D26 (known_findings.json: fixed): without discarding on failure the rows of
a failed attempt are combined again.
-/
namespace BS.Combine
open BS.KV

theorem run_append (fixed : Bool) (s : CSt) (evs evs' : List Ev) :
    run fixed s (evs ++ evs') = run fixed (run fixed s evs) evs' :=
  List.foldl_append ..

theorem run_flushes (fixed : Bool) (c : List KV) (chunks : List (List KV)) :
    run fixed (.idle c) (chunks.map Ev.flush) = .idle (c ++ chunks.flatten) := by
  induction chunks generalizing c with
  | nil => rw [List.flatten_nil, List.append_nil]; rfl
  | cons r rs ih => rw [List.flatten_cons, ← List.append_assoc]; exact ih (c ++ r)

theorem run_attempt (chunks : List (List KV)) (ok : Bool) :
    run true .none (attempt chunks ok) = if ok then .committed chunks.flatten else .none := by
  rw [attempt, run_append]
  cases chunks with
  | nil => cases ok <;> rfl
  | cons r rs =>
    -- the first flush creates the combiners, the others add to them
    have : run true .none ((r :: rs).map Ev.flush) = .idle (r ++ rs.flatten) := run_flushes true r rs
    rw [this]
    cases ok <;> rfl

theorem retry_commits_exactly_one_attempt (failed : List (List (List KV))) (chunks : List (List KV)) :
    run true .none (history failed chunks) = .committed chunks.flatten := by
  induction failed with
  | nil => exact run_attempt chunks true
  | cons a as ih =>
    have : history (a :: as) chunks = attempt a false ++ history as chunks := by simp [history]
    rw [this, run_append, run_attempt]
    exact ih

theorem retry_folds_once (comb : Int → Int → Int) (failed : List (List (List KV))) (chunks : List (List KV)) (rows : List KV)
    (h : chunks.flatten = rows) :
    ∃ c, run true .none (history failed chunks) = .committed c ∧ foldMap comb c = foldMap comb rows :=
  ⟨chunks.flatten, retry_commits_exactly_one_attempt failed chunks, by rw [h]⟩

/-- `fixed := false`: the combiners of a failed attempt are kept -/
theorem unrepaired_counts_twice :
    run false .none (history [[[(5, 5)]]] [[(5, 5)], [(6, 3)]]) = .committed [(5, 5), (5, 5), (6, 3)] ∧
    foldMap (· + ·) [(5, 5), (5, 5), (6, 3)] ≠ foldMap (· + ·) [(5, 5), (6, 3)] := by decide

example : run true .none (history [[[(5, 5)]], []] [[(5, 5)], [(6, 3)]]) = .committed [(5, 5), (6, 3)] := by decide

end BS.Combine
