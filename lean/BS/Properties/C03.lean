import BS.Proofs.Eval
/-!
# C03 — the evaluator: tasks start only when ready, success only when done, always progress

All statements are about one *round* of the evaluator (the reads `obs` made between two clearings of the `wait` memo).
Soundness (what enters `todo` is ready and needed): every loop of `Enqueue` is a chain of `Extends` steps, a call is `Sound`;
`CallOK` is that contract as `enqueue_callOK` states it.  Liveness (a non-zero count means the evaluator
is active): by induction on the fuel, for tasks whose phase head is below it — `Acyc` lets the induction descend.
-/
namespace BS.Eval

/-- assumed of the graph: no theorem derives it from the compiler's output -/
def GroupsOK (g : Graph) : Prop := ∀ t, ∀ u ∈ g.group t, g.group u = g.group t

/-- assumed of the graph: C08's `compile_acyclic` is about `BS.Compile.TWF`, a condition per task index, and no theorem
connects the two -/
def Acyc (g : Graph) : Prop := ∀ t, ∀ u ∈ g.phase t, ∀ d ∈ g.deps u, g.head d < g.head t

def AllOk (g : Graph) (obs : Nat → TState) (t : Nat) : Prop := ∀ u ∈ g.phase t, obs u = .ok

def Ready (g : Graph) (obs : Nat → TState) (u : Nat) : Prop :=
  obs u = .waiting ∨ obs u = .running ∨
    ((obs u = .init ∨ obs u = .lost) ∧ ∀ d ∈ g.deps u, AllOk g obs d)

/-- `x` is needed by `t`: the tasks `Enqueue` descends through (a WAITING, RUNNING or ERR task is not done either, but
`Enqueue` stops at it). -/
inductive Reach (g : Graph) (obs : Nat → TState) : Nat → Nat → Prop
  | here {t x} : x ∈ g.phase t → Reach g obs t x
  | dep {t u d x} : u ∈ g.phase t → (obs u = .init ∨ obs u = .lost) → d ∈ g.deps u →
      Reach g obs d x → Reach g obs t x

def WaitSound (g : Graph) (obs : Nat → TState) (w : List (Nat × Nat)) : Prop :=
  ∀ h n, lookup h w = some n → n = 0 → ∀ u ∈ g.phase h, obs u = .ok

structure CallOK (g : Graph) (obs : Nat → TState) (rec : Nat → EState → EState × Nat) : Prop where
  sound : ∀ d s, WaitSound g obs s.wait → WaitSound g obs (rec d s).1.wait
  zero : ∀ d s, WaitSound g obs s.wait → (rec d s).2 = 0 → AllOk g obs d
  todo : ∀ d s, WaitSound g obs s.wait → ∀ x ∈ (rec d s).1.todo,
            x ∈ s.todo ∨ (Ready g obs x ∧ x ∉ s.pending ∧ Reach g obs d x)
  pend : ∀ d s, WaitSound g obs s.wait → (rec d s).1.pending = s.pending
  mono : ∀ d s, WaitSound g obs s.wait → ∀ x, x ∈ s.todo → x ∈ (rec d s).1.todo
  nodup : ∀ d s, WaitSound g obs s.wait → s.todo.Nodup → (rec d s).1.todo.Nodup

/-- the evaluation cannot report success in this state -/
def Active (s : EState) : Prop := s.err = true ∨ s.todo ≠ [] ∨ s.pending ≠ []

def WaitLive (s : EState) : Prop := ∀ h n, lookup h s.wait = some n → n ≠ 0 → Active s

/-- single_handout: an invariant of every evaluator operation, so `Runnable` never hands out a task that is already out
(`pending`). -/
def HandoutInv (s : EState) : Prop := s.todo.Nodup ∧ ∀ x ∈ s.todo, x ∉ s.pending

/-- enqueueing the roots, as at the top of the `Eval` loop (eval.go:90-92) -/
def enqRoots (g : Graph) (obs : Nat → TState) (fuel : Nat) (roots : List Nat) (s : EState) : EState :=
  roots.foldl (fun s r => (enqueue g obs fuel r s).1) s

section
variable {g : Graph} {obs : Nat → TState} {P Q : Nat → Prop} {s s' s'' : EState}
  {rec : Nat → EState → EState × Nat} {m : Nat}

theorem phase_head (hg : GroupsOK g) (t : Nat) : g.phase (g.head t) = g.phase t := by
  unfold Graph.phase Graph.head
  cases hgt : g.group t with
  | nil => simp [hgt]
  | cons a as =>
    have : g.group a = g.group t := hg t a (hgt ▸ List.mem_cons_self)
    simp [this, hgt]

theorem allOk_head (hg : GroupsOK g) (t : Nat) : AllOk g obs (g.head t) ↔ AllOk g obs t := by
  unfold AllOk; rw [phase_head hg]

theorem waitSound_nil : WaitSound g obs [] := nofun

theorem active_schedule (s : EState) (t : Nat) : Active (s.schedule t) := by
  by_cases h : t ∈ s.pending
  · exact .inr (.inr (schedule_pending s t ▸ List.ne_nil_of_mem h))
  · exact .inr (.inl (List.ne_nil_of_mem ((mem_schedule_todo s t t).mpr (.inr ⟨rfl, h⟩))))

/-- `s'` continues `s` within a round; what is new in `todo` satisfies `P`.  `sound` and `new` carry their hypothesis on
the memo of `s` inside, so that steps chain without side conditions. -/
structure Extends (g : Graph) (obs : Nat → TState) (P : Nat → Prop) (s s' : EState) : Prop where
  pend : s'.pending = s.pending
  mono : ∀ x ∈ s.todo, x ∈ s'.todo
  nodup : s.todo.Nodup → s'.todo.Nodup
  err : s.err = true → s'.err = true
  sound : WaitSound g obs s.wait → WaitSound g obs s'.wait
  new : WaitSound g obs s.wait → ∀ x ∈ s'.todo, x ∈ s.todo ∨ (x ∉ s.pending ∧ P x)

namespace Extends

theorem of_eq (ht : s'.todo = s.todo) (hp : s'.pending = s.pending) (hw : s'.wait = s.wait)
    (he : s.err = true → s'.err = true) : Extends g obs P s s' :=
  ⟨hp, fun _ h => ht ▸ h, fun h => ht ▸ h, he, fun h => hw ▸ h, fun _ _ h => .inl (ht ▸ h)⟩

theorem refl : Extends g obs P s s := of_eq rfl rfl rfl id

theorem trans (a : Extends g obs P s s') (b : Extends g obs P s' s'') : Extends g obs P s s'' where
  pend := b.pend.trans a.pend
  mono x h := b.mono x (a.mono x h)
  nodup h := b.nodup (a.nodup h)
  err h := b.err (a.err h)
  sound h := b.sound (a.sound h)
  new h x hx := (b.new (a.sound h) x hx).elim (a.new h x) fun ⟨hp, hx⟩ => .inr ⟨a.pend ▸ hp, hx⟩

theorem imp (h : ∀ x, P x → Q x) (a : Extends g obs P s s') : Extends g obs Q s s' :=
  { a with new := fun hs x hx => (a.new hs x hx).imp_right fun ⟨hp, hx⟩ => ⟨hp, h x hx⟩ }

theorem schedule (a : Extends g obs P s s') (t : Nat) (ht : WaitSound g obs s.wait → P t) :
    Extends g obs P s (s'.schedule t) where
  pend := (schedule_pending s' t).trans a.pend
  mono x h := (mem_schedule_todo s' t x).mpr (.inl (a.mono x h))
  nodup h := schedule_nodup s' t (a.nodup h)
  err h := (schedule_err s' t).trans (a.err h)
  sound h := schedule_wait s' t ▸ a.sound h
  new h x hx := ((mem_schedule_todo s' t x).mp hx).elim (a.new h x)
    fun ⟨e, hp⟩ => .inr ⟨e ▸ a.pend ▸ hp, e ▸ ht h⟩

theorem add (s : EState) (a b n : Nat) : Extends g obs P s (s.add a b n) := by
  rw [add_eq]; exact of_eq rfl rfl rfl id

theorem clear (g : Graph) (s : EState) (t : Nat) : Extends g obs P s (s.clear g t) := of_eq rfl rfl rfl id

theorem setErr (s : EState) : Extends g obs P s { s with err := true } := of_eq rfl rfl rfl fun _ => rfl

theorem active (e : Extends g obs P s s') : Active s → Active s'
  | .inl h => .inl (e.err h)
  | .inr (.inl h) =>
    let ⟨x, hx⟩ := List.exists_mem_of_ne_nil _ h
    .inr (.inl (List.ne_nil_of_mem (e.mono x hx)))
  | .inr (.inr h) => .inr (.inr (e.pend ▸ h))

theorem handout (e : Extends g obs P s s') (hs : WaitSound g obs s.wait) (hi : HandoutInv s) :
    HandoutInv s' :=
  ⟨e.nodup hi.1, fun x hx => e.pend ▸ (e.new hs x hx).elim (hi.2 x) (·.1)⟩

-- last in the namespace: after it `doneStep` means this theorem, not the model's function
theorem doneStep (src : Nat) (s : EState) : Extends g obs P s (doneStep src s).1 := by
  rw [doneStep_fst]; exact of_eq rfl rfl rfl id

end Extends

abbrev Due (g : Graph) (obs : Nat → TState) (t x : Nat) : Prop := Ready g obs x ∧ Reach g obs t x

/-- the contract of one call, as a predicate of its result `r` -/
structure Sound (g : Graph) (obs : Nat → TState) (t : Nat) (s : EState) (r : EState × Nat) : Prop where
  ext : Extends g obs (Due g obs t) s r.1
  zero : WaitSound g obs s.wait → r.2 = 0 → AllOk g obs t

theorem Sound.memo (hg : GroupsOK g) {t : Nat} {r : EState × Nat} (h : Sound g obs t s r) :
    Sound g obs t s ({ r.1 with wait := upsert (g.head t) r.2 r.1.wait }, r.2) :=
  -- only `sound` looks at `wait`
  ⟨{ h.ext with sound := fun hs =>
      forall_lookup_upsert (fun hz => (allOk_head hg t).mpr (h.zero hs hz)) (h.ext.sound hs) }, h.zero⟩

def CallSound (g : Graph) (obs : Nat → TState) (rec : Nat → EState → EState × Nat) : Prop :=
  ∀ d s, Sound g obs d s (rec d s)

theorem foldl_extends (hr : CallSound g obs rec) (ds : List Nat)
    (hP : ∀ d ∈ ds, ∀ x, Due g obs d x → P x) (s : EState) :
    Extends g obs P s (ds.foldl (fun s d => (rec d s).1) s) :=
  List.foldlRecOn (motive := (Extends g obs P s ·)) ds _ .refl fun s' e d hd => e.trans ((hr d s').ext.imp (hP d hd))

theorem enqDeps_extends (hr : CallSound g obs rec) (u : Nat) (ds : List Nat)
    (hP : ∀ d ∈ ds, ∀ x, Due g obs d x → P x) (s : EState) (ready : Bool) :
    Extends g obs P s (enqDeps rec u ds s ready).1 ∧
    (WaitSound g obs s.wait → (enqDeps rec u ds s ready).2 = true →
      ready = true ∧ ∀ d ∈ ds, AllOk g obs d) := by
  induction ds generalizing s ready with
  | nil => exact ⟨.refl, fun _ h => ⟨h, nofun⟩⟩
  | cons d ds ih =>
    obtain ⟨hd, hds⟩ := List.forall_mem_cons.mp hP
    have e := (hr d s).ext.imp hd
    rw [enqDeps]
    split
    · next hz =>
      obtain ⟨e', h⟩ := ih hds (rec d s).1 ready
      exact ⟨e.trans e', fun hs hrdy => (h (e.sound hs) hrdy).imp_right fun h =>
        List.forall_mem_cons.mpr ⟨(hr d s).zero hs hz, h⟩⟩
    · have e := e.trans (.add _ d u (rec d s).2)
      obtain ⟨e', h⟩ := ih hds _ false
      exact ⟨e.trans e', fun hs hrdy => nomatch (h (e.sound hs) hrdy).1⟩

theorem enqPhase_snd (us : List Nat) (s : EState) (n : Nat) :
    (enqPhase g obs rec us s n).2 = n + us.countP (obs · ≠ .ok) := by
  -- a task observed OK leaves the count as it is, every other one adds one to it
  fun_induction enqPhase g obs rec us s n with
  | case1 => rfl
  | case2 u us s n h ih => rw [ih, List.countP_cons_of_neg (by simp [h])]
  | _ => rw [List.countP_cons_of_pos (by simp [*]), ← Nat.add_assoc, Nat.add_right_comm]; assumption

theorem enqPhase_extends (hr : CallSound g obs rec) (t : Nat) (us : List Nat) (hus : ∀ u ∈ us, u ∈ g.phase t)
    (s : EState) (n : Nat) :
    Extends g obs (Due g obs t) s (enqPhase g obs rec us s n).1 := by
  induction us generalizing s n with
  | nil => exact .refl
  | cons u us ih =>
    obtain ⟨hu, hus⟩ := List.forall_mem_cons.mp hus
    rw [enqPhase]
    split <;> refine Extends.trans ?_ (ih hus ..)
    · exact .refl
    · exact .setErr s
    · next h => exact Extends.refl.schedule u fun _ => ⟨.inl h, .here hu⟩
    · next h => exact Extends.refl.schedule u fun _ => ⟨.inr (.inl h), .here hu⟩
    all_goals
      next h =>
      have hil : obs u = .init ∨ obs u = .lost := by simp [h]
      obtain ⟨e, hrdy⟩ := enqDeps_extends (P := Due g obs t) hr u (g.deps u)
        (fun d hd x hx => ⟨hx.1, .dep hu hil hd hx.2⟩) (s.clear g u) true
      have e := (Extends.clear g s u).trans e
      split
      · next hr' => exact e.schedule u fun hs => ⟨.inr (.inr ⟨hil, (hrdy hs hr').2⟩), .here hu⟩
      · exact e

theorem enqueue_callSound (hg : GroupsOK g) (obs : Nat → TState) (fuel : Nat) :
    CallSound g obs (enqueue g obs fuel) := by
  induction fuel with
  | zero => exact fun _ _ => ⟨.refl, fun _ h => nomatch h⟩
  | succ fuel ih =>
    intro t s
    rw [enqueue]
    split
    · next n hl => exact ⟨.refl, fun hs hz => (allOk_head hg t).mp (hs _ n hl hz)⟩
    · exact .memo hg ⟨enqPhase_extends ih t (g.phase t) (fun _ h => h) s 0, fun _ => by simp [enqPhase_snd, AllOk]⟩

/-- `n`: the count (or flag) on entry to the call or loop -/
structure Live {α} (r : EState × α) (n : α) : Prop where
  wait : WaitLive r.1
  active : r.2 ≠ n → Active r.1

/-- `m` bounds the phase heads the contract speaks of: out of fuel, `enqueue` answers `(s, 1)` and schedules nothing -/
def CallLive (g : Graph) (rec : Nat → EState → EState × Nat) (m : Nat) : Prop :=
  ∀ d s, g.head d < m → WaitLive s → Live (rec d s) 0

theorem Live.refl {α} {n : α} (hs : WaitLive s) : Live (s, n) n := ⟨hs, fun h => absurd rfl h⟩

theorem Live.of_active {α} {r : EState × α} {n : α} (h : Active r.1) : Live r n :=
  ⟨fun _ _ _ _ => h, fun _ => h⟩

theorem Live.memo {r : EState × Nat} {h : Nat} (hl : Live r 0) :
    Live ({ r.1 with wait := upsert h r.2 r.1.wait }, r.2) 0 :=
  -- `Active` does not look at `wait`
  ⟨forall_lookup_upsert hl.active hl.wait, hl.active⟩

theorem enqDeps_live (hc : CallSound g obs rec) (hr : CallLive g rec m) (u : Nat) (ds : List Nat)
    (hds : ∀ d ∈ ds, g.head d < m) (s : EState) (ready : Bool) (hs : WaitLive s) :
    Live (enqDeps rec u ds s ready) ready := by
  induction ds generalizing s ready with
  | nil => exact .refl hs
  | cons d ds ih =>
    obtain ⟨hd, hds⟩ := List.forall_mem_cons.mp hds
    have hl := hr d s hd hs
    rw [enqDeps]
    split
    · exact ih hds _ _ hl.wait
    · next hz =>
      have e := (Extends.add (rec d s).1 d u (rec d s).2).trans
        (enqDeps_extends hc u ds (P := fun _ => True) (fun _ _ _ _ => trivial) _ false).1
      exact .of_active (e.active (hl.active hz))

theorem enqPhase_live (hc : CallSound g obs rec) (hr : CallLive g rec m) (ha : Acyc g) (t : Nat) (ht : g.head t ≤ m)
    (us : List Nat) (hus : ∀ u ∈ us, u ∈ g.phase t) (s : EState) (n : Nat) (hs : WaitLive s) :
    Live (enqPhase g obs rec us s n) n := by
  induction us generalizing s n with
  | nil => exact .refl hs
  | cons u us ih =>
    obtain ⟨hu, hus⟩ := List.forall_mem_cons.mp hus
    rw [enqPhase]
    split
    · exact ih hus s n hs
    -- a task that is not OK leaves the evaluator active through the rest of the phase
    all_goals refine .of_active ((enqPhase_extends hc t us hus ..).active ?_)
    · exact .inl rfl
    · exact active_schedule s u
    · exact active_schedule s u
    all_goals
      split
      · exact active_schedule _ u
      · next hnr =>
        -- `WaitLive` does not look at what `clear` changes, so `hs` serves for `s.clear g u`
        exact (enqDeps_live hc hr u (g.deps u) (fun d hd => Nat.lt_of_lt_of_le (ha t u hu d hd) ht)
          (s.clear g u) true hs).active hnr

theorem ret_eq_some {fuel t : Nat} {st : TState} : ret g obs fuel t st s = some s' →
    let s₀ := { s with wait := [], pending := s.pending.filter (· ≠ t) }
    s' = match st with
      | .err => { s₀ with err := true }
      | .ok => let r := doneStep (g.head t) s₀; r.2.foldl (fun s d => (enqueue g obs fuel d s).1) r.1
      | .lost => (enqueue g obs fuel t s₀).1
      | _ => s₀.schedule t := fun h => by
  have h := (Option.ite_none_left_eq_some.mp h).2
  cases st <;> exact (Option.some.inj h).symm

theorem ret_extends (hg : GroupsOK g) {fuel t : Nat} {st : TState} (h : ret g obs fuel t st s = some s') :
    Extends g obs (fun _ => True) { s with wait := [], pending := s.pending.filter (· ≠ t) } s' := by
  have hc := enqueue_callSound hg obs fuel
  cases ret_eq_some h
  cases st
  case ok => exact (Extends.doneStep ..).trans (foldl_extends hc _ (fun _ _ _ _ => trivial) _)
  case err => exact .setErr _
  case lost => exact (hc t _).ext.imp fun _ _ => trivial
  all_goals exact Extends.refl.schedule t fun _ => trivial

end

theorem enqueue_callOK (g : Graph) (hg : GroupsOK g) (obs : Nat → TState) (fuel : Nat) :
    CallOK g obs (enqueue g obs fuel) := by
  have h := enqueue_callSound hg obs fuel
  exact {
    sound := fun d s => (h d s).ext.sound
    zero := fun d s => (h d s).zero
    todo := fun d s hs x hx => ((h d s).ext.new hs x hx).imp_right and_left_comm.mp
    pend := fun d s _ => (h d s).ext.pend
    mono := fun d s _ => (h d s).ext.mono
    nodup := fun d s _ => (h d s).ext.nodup }

theorem enqueue_callLive (g : Graph) (hg : GroupsOK g) (ha : Acyc g) (obs : Nat → TState) (fuel : Nat) :
    CallLive g (enqueue g obs fuel) fuel := by
  induction fuel with
  | zero => exact fun _ _ h => absurd h (Nat.not_lt_zero _)
  | succ fuel ih =>
    intro t s ht hs
    rw [enqueue]
    split
    · next n hl => exact ⟨hs, hs _ n hl⟩
    · exact (enqPhase_live (enqueue_callSound hg obs fuel) ih ha t (Nat.le_of_lt_succ ht) (g.phase t) (fun _ h => h)
        s 0 hs).memo

theorem active_of_schedule (s : EState) (t : Nat) (h : Active s) : Active (s.schedule t) :=
  active_schedule s t

/-- ready_only / needed_only: every task that enqueueing the roots adds to `todo` may run (`Ready`), is not pending, and is
needed by some root through phases that are not done (`Reach`). -/
theorem ready_and_needed_only (g : Graph) (hg : GroupsOK g) (obs : Nat → TState) (fuel : Nat)
    (roots : List Nat) (s : EState) (hs : WaitSound g obs s.wait) :
    WaitSound g obs (enqRoots g obs fuel roots s).wait ∧
    (enqRoots g obs fuel roots s).pending = s.pending ∧
    ∀ x ∈ (enqRoots g obs fuel roots s).todo,
      x ∈ s.todo ∨ (Ready g obs x ∧ x ∉ s.pending ∧ ∃ r ∈ roots, Reach g obs r x) := by
  have e := foldl_extends (enqueue_callSound hg obs fuel) roots
    (P := fun x => Ready g obs x ∧ ∃ r ∈ roots, Reach g obs r x) (fun r hr x hx => ⟨hx.1, r, hr, hx.2⟩) s
  exact ⟨e.sound hs, e.pend, fun x hx => (e.new hs x hx).imp_right and_left_comm.mp⟩

theorem handout_enqueue (g : Graph) (hg : GroupsOK g) (obs : Nat → TState) (fuel t : Nat) (s : EState)
    (hs : WaitSound g obs s.wait) (hi : HandoutInv s) : HandoutInv (enqueue g obs fuel t s).1 :=
  (enqueue_callSound hg obs fuel t s).ext.handout hs hi

theorem handout_runnable (s : EState) (hi : HandoutInv s) :
    HandoutInv (runnable s).1 ∧ (runnable s).2.Nodup ∧ ∀ x ∈ (runnable s).2, x ∉ s.pending :=
  -- by unfolding, `(runnable s).1.todo` is `[]` and `(runnable s).2` is `s.todo`
  ⟨⟨List.nodup_nil, nofun⟩, hi⟩

theorem handout_ret (g : Graph) (hg : GroupsOK g) (obs : Nat → TState) (fuel t : Nat) (st : TState)
    (s s' : EState) (hi : HandoutInv s) (h : ret g obs fuel t st s = some s') : HandoutInv s' :=
  (ret_extends hg h).handout waitSound_nil ⟨hi.1, fun x hx hp => hi.2 x hx (List.mem_filter.mp hp).1⟩

/-- success_only_when_done / never idle with work outstanding: once the roots are enqueued, if the evaluator is not active
(exactly when `Eval` returns nil) every task of every root phase was observed OK.  Contrapositive: while some root is not
done it blocks in its `select` only with `pending ≠ ∅`. -/
theorem success_only_when_done (g : Graph) (hg : GroupsOK g) (ha : Acyc g) (obs : Nat → TState) (fuel : Nat)
    (roots : List Nat) (s : EState) (hs : WaitSound g obs s.wait) (hl : WaitLive s)
    (hf : ∀ r ∈ roots, g.head r < fuel)
    (hdone : ¬ Active (enqRoots g obs fuel roots s)) : ∀ r ∈ roots, AllOk g obs r := by
  have hc := enqueue_callSound hg obs fuel
  induction roots generalizing s with
  | nil => nofun
  | cons r rs ih =>
    obtain ⟨hr, hrs⟩ := List.forall_mem_cons.mp hf
    have hl' := enqueue_callLive g hg ha obs fuel r s hr hl
    -- a non-zero count leaves the evaluator active through the remaining roots
    have hz : (enqueue g obs fuel r s).2 = 0 := Decidable.byContradiction fun hn =>
      hdone ((foldl_extends hc rs (P := fun _ => True) (fun _ _ _ _ => trivial) _).active (hl'.active hn))
    exact List.forall_mem_cons.mpr ⟨(hc r s).zero hs hz, ih _ ((hc r s).ext.sound hs) hl'.wait hrs hdone⟩

/-- A `Return` that observes `TaskErr` records the error. -/
theorem error_reported (g : Graph) (obs : Nat → TState) (fuel t : Nat) (s s' : EState)
    (h : ret g obs fuel t .err s = some s') : s'.err = true :=
  ret_eq_some h ▸ rfl

/-- A `Return` that observes `TaskLost` (and reads LOST again when re-enqueueing) leaves the evaluator active: the task, or
something it waits for, is scheduled or in flight.  `ht` is assumed of the graph, like `GroupsOK` and `Acyc`. -/
theorem lost_resubmitted (g : Graph) (hg : GroupsOK g) (ha : Acyc g) (obs : Nat → TState) (fuel t : Nat)
    (s s' : EState) (hf : g.head t < fuel) (hobs : obs t = .lost) (ht : t ∈ g.phase t)
    (h : ret g obs fuel t .lost s = some s') : Active s' := by
  cases ret_eq_some h
  refine (enqueue_callLive g hg ha obs fuel t _ hf fun _ _ h => by cases h).active fun hz => ?_
  exact nomatch hobs.symm.trans ((enqueue_callSound hg obs fuel t _).zero waitSound_nil hz t ht)

/-- A returned task is handed out again only through `todo`. -/
theorem ret_not_pending (g : Graph) (hg : GroupsOK g) (obs : Nat → TState) (fuel t : Nat) (st : TState)
    (s s' : EState) (h : ret g obs fuel t st s = some s') : t ∉ s'.pending := by
  rw [(ret_extends hg h).pend]
  simp

/-- non-vacuity: a chain 3 → 2 → the shuffle phase {0, 1}; under `exObs` task 1 is lost, enqueueing 3 schedules only it -/
def exG : Graph :=
  { n := 4
    deps := fun t => if t = 2 then [0] else if t = 3 then [2] else []
    group := fun t => if t = 0 ∨ t = 1 then [0, 1] else [] }

def exObs : Nat → TState := fun t => if t = 0 then .ok else if t = 1 then .lost else .init

theorem exG_groupsOK : GroupsOK exG := by
  intro t u hu
  dsimp only [exG] at hu ⊢
  split at hu
  · next h => rw [if_pos h, if_pos (by simpa using hu)]
  · cases hu

example : (enqueue exG exObs 5 3 EState.empty).1.todo = [1] := by decide
example : ¬ (enqueue exG exObs 5 3 EState.empty).2 = 0 := by decide

end BS.Eval
