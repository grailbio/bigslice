import BS.Proofs.Crc
/-!
# C07 (checksums) — what the per-batch CRC-32 detects

The codec writes, after every batch, the CRC-32 (IEEE) of the batch's bytes and the decoder recomputes it over the bytes
it consumed (sliceio/codec.go).  `BS.Codec` abstracts a batch as intact or damaged; this file proves, for the real
checksum function, which damage *cannot* go unnoticed: any change confined to a window of at most 32 consecutive bits —
in particular every single flipped bit and every damaged run of up to four bytes — at any position of a batch of any
length changes the checksum.  (Longer damage escapes with probability 2^-32: not proved here.)
-/
namespace BS.Crc

/-- Stated of the register (`run`), from every state `s`, so also in the continuation of a longer stream. -/
theorem checksum_detects_bit_burst (s : BitVec 32) (pre suf w w' : List Bool) (hl : w.length = w'.length)
    (h32 : w.length ≤ 32) (hne : w ≠ w') : run s (pre ++ w ++ suf) ≠ run s (pre ++ w' ++ suf) := by
  rw [run_append, run_append, run_append, run_append]
  exact run_ne_of_ne _ _ suf fun h => hne (run_window_inj hl h32 h)

theorem checksum_detects_byte_burst (pre suf w w' : List (BitVec 8)) (hl : w.length = w'.length) (h4 : w.length ≤ 4)
    (hne : w ≠ w') : crc32 (pre ++ w ++ suf) ≠ crc32 (pre ++ w' ++ suf) := by
  unfold crc32
  intro h
  have h' := BitVec.not_inj.mp h
  simp only [List.flatMap_append] at h'
  refine checksum_detects_bit_burst _ _ _ _ _ ?_ ?_ ?_ h'
  · rw [bits_length, bits_length, hl]
  · rw [bits_length]; exact Nat.mul_le_mul_left 8 h4
  · exact fun hb => hne (bits_inj hl hb)

theorem checksum_detects_bit_flip (s : BitVec 32) (pre suf : List Bool) (b : Bool) :
    run s (pre ++ [b] ++ suf) ≠ run s (pre ++ [!b] ++ suf) :=
  checksum_detects_bit_burst s pre suf [b] [!b] rfl (by simp) (by cases b <;> simp)

/-- the model is the IEEE checksum: the standard check value ("123456789") -/
example : crc32 [0x31#8, 0x32#8, 0x33#8, 0x34#8, 0x35#8, 0x36#8, 0x37#8, 0x38#8, 0x39#8] = 0xCBF43926#32 := by decide +kernel

example : crc32 [0x61#8, 0x62#8, 0x63#8] ≠ crc32 [0x61#8, 0x62#8 ^^^ 0x10#8, 0x63#8] :=
  checksum_detects_byte_burst [0x61#8] [0x63#8] [0x62#8] [0x62#8 ^^^ 0x10#8] rfl (by simp) (by decide)

end BS.Crc
