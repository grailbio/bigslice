import BS.Model.WriteThrough
/-!
# C13 (file protocol) — a shard file is absent or complete

For every script of upstream results (any chunking, empty reads, rows delivered together with EOF, an error at any
call), every placement of failing file operations (create, write, close) and every point at which the consumer stops
calling: the shard file becomes visible only if the consumer was handed end-of-stream without an error, and then it
holds exactly the rows the consumer was handed, which are all the rows of the upstream (`published_complete`,
`published_iff_eof`); an upstream error, a failed file operation or an abandoned reader never leaves a visible file
(`error_never_publishes`, `abandoned_never_publishes`); without failures a reader drained to its end publishes the whole
shard (`drained_publishes`); and the rows handed to the consumer are the upstream's, whatever happens to the file
(`transparent`).
-/
namespace BS.WT

variable {α : Type}

def isPublished : FileSt α → Bool
  | .published _ => true
  | _ => false

/-- the states a reader's own file can be in before a call -/
def Pre (f : FileSt α) (w : List α) : Prop := (f = .absent ∧ w = []) ∨ f = .writing w

theorem pre_absent : Pre (.absent : FileSt α) [] := .inl ⟨rfl, rfl⟩

theorem read_absent (c : Call α) :
    read .absent c = if c.createFails then (.absent, [], .ioErr) else read (.writing []) c := by
  unfold read; cases c.createFails <;> rfl

/-- what a call `c` can return to a reader that has appended `w` so far -/
inductive Outcome (w : List α) (c : Call α) : FileSt α × List α × Out → Prop
  | more : c.st = .more → Outcome w c (.writing (w ++ c.rows), c.rows, .ok)
  | eof : c.st = .eof → Outcome w c (.published (w ++ c.rows), c.rows, .eof)
  | err : c.st = .err → Outcome w c (.dropped, c.rows, .upstreamErr)
  | io {f : FileSt α} {rows : List α} : isPublished f = false → rows = [] ∨ rows = c.rows →
      (!c.createFails && !c.writeFails && !c.closeFails) = false → Outcome w c (f, rows, .ioErr)

theorem read_spec (f : FileSt α) (w : List α) (hf : Pre f w) (c : Call α) : Outcome w c (read f c) := by
  suffices h : ∀ w, Outcome w c (read (.writing w) c) by
    rcases hf with ⟨rfl, rfl⟩ | rfl
    · rw [read_absent]; split
      next h => exact .io rfl (.inl rfl) (by simp [h])
      next => exact h []
    · exact h w
  intro w
  unfold read
  dsimp only
  split
  next h => exact .err h
  next h =>
    split
    next h' => exact .io rfl (.inr rfl) (by simp [h'])
    next => exact .more h
  next h =>
    split
    next h' => exact .io rfl (.inr rfl) (by simp [h'])
    next =>
      split
      next h' => exact .io rfl (.inr rfl) (by simp [h'])
      next => exact .eof h

theorem run_spec (cs : List (Call α)) : ∀ {f : FileSt α} {w : List α}, Pre f w →
    ∀ {f' : FileSt α} {rows : List α} {o : Out}, run f cs = (f', rows, o) →
    (∃ rest, upstreamRows cs = rows ++ rest) ∧
    (o = .ok → Pre f' (w ++ rows)) ∧
    (o = .eof → f' = .published (w ++ rows) ∧ rows = upstreamRows cs ∧ reachesEof cs = true) ∧
    (o ≠ .eof → isPublished f' = false) ∧
    (faultFree cs = true → reachesEof cs = true → o = .eof) := by
  induction cs with
  | nil =>
    intro f w hf f' rows o hrun
    cases hrun
    refine ⟨⟨[], rfl⟩, fun _ => by rwa [List.append_nil], nofun, fun _ => ?_, nofun⟩
    rcases hf with ⟨rfl, -⟩ | rfl <;> rfl
  | cons c cs ih =>
    intro f w hf f' rows o hrun
    have ho := read_spec f w hf c
    -- `run` unfolds by `rfl`; `rw [run]` would make Lean prove the equation lemmas of `run` first
    change (if (read f c).2.2 = .ok then _ else read f c) = _ at hrun
    generalize read f c = r at ho hrun
    -- with the fields of the call in the open and `st` known, `upstreamRows`, `reachesEof` and `faultFree` of `c :: cs`
    -- compute, so that the facts about them below are `rfl`
    obtain ⟨rows, st, cf, wf, clf⟩ := c
    cases ho with
    | more hst =>
      subst hst
      cases hrun
      obtain ⟨⟨rest, h1⟩, h2, h3, h4, h5⟩ := ih (w := w ++ rows) (.inr rfl) rfl
      rw [List.append_assoc] at h2 h3
      exact ⟨⟨rest, (congrArg (rows ++ ·) h1).trans (List.append_assoc ..).symm⟩, h2,
        fun h => ⟨(h3 h).1, congrArg (rows ++ ·) (h3 h).2.1, (h3 h).2.2⟩, h4,
        fun hf => h5 (Bool.and_eq_true_iff.mp hf).2⟩
    | eof hst =>
      subst hst
      cases hrun
      exact ⟨⟨[], (List.append_nil _).symm⟩, nofun, fun _ => ⟨rfl, rfl, rfl⟩, fun h => absurd rfl h, fun _ _ => rfl⟩
    | err hst =>
      subst hst
      cases hrun
      exact ⟨⟨[], (List.append_nil _).symm⟩, nofun, nofun, fun _ => rfl, fun _ => nofun⟩
    | io hp hr hfault =>
      cases hrun
      refine ⟨?_, nofun, nofun, fun _ => hp, fun hf => nomatch hfault.symm.trans (Bool.and_eq_true_iff.mp hf).1⟩
      rcases hr with rfl | rfl
      · exact ⟨_, rfl⟩
      · show ∃ rest, (if st = .more then _ else _) = _
        split
        · exact ⟨_, rfl⟩
        · exact ⟨[], (List.append_nil _).symm⟩

theorem published_iff_eof (cs : List (Call α)) :
    isPublished (run .absent cs).1 = true ↔ (run .absent cs).2.2 = .eof := by
  obtain ⟨-, -, heof, hne, -⟩ := run_spec cs pre_absent rfl
  refine ⟨fun h => Decidable.by_contra fun he => ?_, fun h => ?_⟩
  · rw [hne he] at h; cases h
  · rw [(heof h).1]; rfl

theorem published_complete (cs : List (Call α)) (w : List α) (h : (run .absent cs).1 = .published w) :
    (run .absent cs).2.2 = .eof ∧ w = (run .absent cs).2.1 := by
  have he := (published_iff_eof cs).mp (by rw [h]; rfl)
  obtain ⟨-, -, heof, -⟩ := run_spec cs pre_absent rfl
  exact ⟨he, FileSt.published.inj (h.symm.trans (heof he).1)⟩

/-- failing file operations only cut the stream short with an error -/
theorem transparent (cs : List (Call α)) : ∀ (f : FileSt α) (w : List α), Pre f w →
    (∃ rest, upstreamRows cs = (run f cs).2.1 ++ rest) ∧
    ((run f cs).2.2 = .eof → (run f cs).2.1 = upstreamRows cs ∧ reachesEof cs = true) := by
  intro _ _ hf
  obtain ⟨hpre, -, heof, -⟩ := run_spec cs hf rfl
  exact ⟨hpre, fun h => (heof h).2⟩

theorem error_never_publishes (cs : List (Call α))
    (h : (run .absent cs).2.2 = .upstreamErr ∨ (run .absent cs).2.2 = .ioErr) :
    isPublished (run .absent cs).1 = false := by
  obtain ⟨-, -, -, hne, -⟩ := run_spec cs pre_absent rfl
  exact hne (by rcases h with h | h <;> rw [h] <;> nofun)

/-- abandoned: every call so far returned `ok` -/
theorem abandoned_never_publishes (cs : List (Call α)) (h : (run .absent cs).2.2 = .ok) :
    isPublished (run .absent cs).1 = false := by
  obtain ⟨-, -, -, hne, -⟩ := run_spec cs pre_absent rfl
  exact hne (by rw [h]; nofun)

theorem drained_publishes (cs : List (Call α)) (hf : faultFree cs = true) (he : reachesEof cs = true) :
    (run .absent cs).1 = .published (upstreamRows cs) ∧ (run .absent cs).2.1 = upstreamRows cs ∧
      (run .absent cs).2.2 = .eof := by
  obtain ⟨-, -, heof, -, h⟩ := run_spec cs pre_absent rfl
  obtain ⟨h1, h2, -⟩ := heof (h hf he)
  exact ⟨by rw [h1, h2]; rfl, h2, h hf he⟩

/-- non-vacuity: three calls, rows with the EOF; the same with a failing close; an abandoned reader -/
example : run (.absent : FileSt Nat) [⟨[1, 2], .more, false, false, false⟩, ⟨[], .more, false, false, false⟩,
    ⟨[3], .eof, false, false, false⟩] = (.published [1, 2, 3], [1, 2, 3], .eof) := rfl
example : run (.absent : FileSt Nat) [⟨[1, 2], .more, false, false, false⟩, ⟨[3], .eof, false, false, true⟩]
    = (.dropped, [1, 2, 3], .ioErr) := rfl
example : run (.absent : FileSt Nat) [⟨[1, 2], .more, false, false, false⟩] = (.writing [1, 2], [1, 2], .ok) := rfl

end BS.WT
