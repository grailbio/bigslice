import BS.Model.WorkerTask
import BS.Proofs.ListSet
/-!
# C12 (worker side) — whatever calls overlap, a task the worker reports OK has its output

For any number of `Worker.Run` and `Worker.Discard` calls for one task, issued and interleaved in any way (the originals
of retried RPCs included), as long as no *waiting* call's context is cancelled (`NoCancel`; see
`cancel_breaks_one_holder`): at most one call holds the task at a time — it is executed by one call and awaited by the
others, never executed twice at once nor executed while it is being discarded (`one_holder`) —; whenever the task is OK
the store holds its output (`ok_has_output`), so every success a `Run` call reports is backed by output
(`success_reply_has_output`).  A `Run` call that waited while the output was being discarded reports `ErrTaskLost`; were a
LOST task taken for success there, the worker would hold a task for OK without output (`lost_as_success_unsafe`: the
trace of that hypothetical change, not a behaviour of the code).
-/
namespace BS.WorkerTask

/-- `active` counts the calls that hold the task (`act`: executing or discarding it) -/
def Inv (s : S) : Prop :=
  active s.ths = (if s.st = .running then 1 else 0) ∧ (s.st = .ok → s.out = true)

theorem active_set {l : List Th} {i : Nat} {t : Th} (h : l[i]? = some t) (t' : Th) :
    act t + active (l.set i t') = act t' + active l := ((perm_set h t').map act).sum_nat

/-- the guards of `step` read a call's mode through `S.th`, which is `idle` beyond the end of the list -/
theorem getElem?_of_th {s : S} {i : Nat} {t : Th} (h : s.th i = t) (hi : t ≠ .idle ∨ i < s.ths.length) :
    s.ths[i]? = some t := by
  rw [S.th, List.getD_eq_getElem?_getD] at h
  exact (Option.getD_eq_iff.mp h).resolve_right fun ⟨hn, e⟩ =>
    hi.elim (· e.symm) (Nat.not_lt.mpr (List.getElem?_eq_none_iff.mp hn))

theorem holder_running {s : S} (h : Inv s) {i : Nat} {t : Th} (hi : s.ths[i]? = some t) (ha : act t = 1) :
    s.st = .running :=
  Decidable.by_contra fun hr => by
    have := active_set hi .idle
    rw [ha, h.1, if_neg hr, Nat.add_comm] at this
    cases this

/-- what `step_inv` and `success_reply_has_output` need of a step, so that one case analysis of `step` serves both -/
def StepOK (s s' : S) : Prop := Inv s' ∧ ∀ i, s'.replies = (i, .ok) :: s.replies → s'.st = .ok

/-- for the arms of `step` that do not reply: `StepOK`'s second part is vacuous -/
theorem no_new_reply {l : List (Nat × Reply)} {p : Prop} (i : Nat) (h : l = (i, .ok) :: l) : p := absurd h List.ne_cons_self

theorem StepOK.rfl {s : S} (h : Inv s) : StepOK s s := ⟨h, no_new_reply⟩

theorem StepOK.ite {s s' : S} {c : Prop} [Decidable c] (h : Inv s) (h' : c → StepOK s s') :
    StepOK s (if c then s' else s) := by
  split
  next hc => exact h' hc
  · exact .rfl h

theorem StepOK.setTh {s : S} (h : Inv s) {i : Nat} {t : Th} (hi : s.ths[i]? = some t) (t' : Th) (st' : WSt)
    {out' : Bool} {r : List (Nat × Reply)}
    (hact : act t' + (if s.st = .running then 1 else 0) = act t + (if st' = .running then 1 else 0))
    (hout : st' = .ok → out' = true) (hrep : ∀ j, r = (j, .ok) :: s.replies → st' = .ok) :
    StepOK s ⟨st', out', s.ths.set i t', r⟩ :=
  ⟨⟨Nat.add_left_cancel ((active_set hi t').trans (h.1 ▸ hact)), hout⟩, hrep⟩

theorem step_ok (s : S) (h : Inv s) (e : Ev) (hnc : e.isCancel = false) : StepOK s (step true s e) := by
  cases e with
  | cancel i => cases hnc
  | runEnter i =>
    refine .ite h fun hc => ?_
    have hi := getElem?_of_th hc.1 (.inr hc.2)
    cases hst : s.st
    case running | ok => exact .setTh h hi .wait s.st rfl (hout := h.2) (hrep := no_new_reply)
    all_goals exact .setTh h hi .exec .running (by rw [hst]; rfl) (hout := nofun) (hrep := no_new_reply)
  | finOk i =>
    refine .ite h fun hc => ?_
    have hi := getElem?_of_th hc (.inl nofun)
    exact .setTh h hi .idle .ok (by rw [holder_running h hi rfl]; rfl) (hout := fun _ => rfl) (hrep := fun _ _ => rfl)
  | finErr i =>
    refine .ite h fun hc => ?_
    have hi := getElem?_of_th hc (.inl nofun)
    exact .setTh h hi .idle .err (by rw [holder_running h hi rfl]; rfl) (hout := nofun) (hrep := nofun)
  | wake i =>
    refine .ite h fun hc => ?_
    have hi := getElem?_of_th hc (.inl nofun)
    split
    next hst => exact .setTh h hi .idle s.st rfl (hout := h.2) (hrep := fun _ _ => hst)
    · exact .setTh h hi .idle s.st rfl (hout := h.2) (hrep := nofun)
    -- the output was discarded while the call waited: it reports `ErrTaskLost`
    next hst => exact .setTh h hi .idle .err (by rw [hst]; rfl) (hout := nofun) (hrep := nofun)
    · exact .rfl h
  | discEnter i =>
    refine .ite h fun hc => ?_
    have hi := getElem?_of_th hc.1 (.inr hc.2)
    split
    next hok => exact .setTh h hi (.disc false) .running (by rw [hok]; rfl) (hout := nofun) (hrep := no_new_reply)
    next => exact ⟨h, nofun⟩
  | discStore i =>
    refine .ite h fun hc => ?_
    have hi := getElem?_of_th hc (.inl nofun)
    exact .setTh h hi (.disc true) s.st rfl (hout := by rw [holder_running h hi rfl]; nofun) (hrep := no_new_reply)
  | discFin i =>
    refine .ite h fun hc => ?_
    have hi := getElem?_of_th hc (.inl nofun)
    exact .setTh h hi .idle .lost (by rw [holder_running h hi rfl]; rfl) (hout := nofun) (hrep := nofun)

theorem step_inv (s : S) (h : Inv s) (e : Ev) (hnc : e.isCancel = false) : Inv (step true s e) :=
  (step_ok s h e hnc).1

theorem inv_init (n : Nat) : Inv (init n) := by simp [Inv, init, active, act]

def NoCancel (evs : List Ev) : Prop := ∀ e ∈ evs, e.isCancel = false

theorem reachable_inv (n : Nat) (evs : List Ev) (hnc : NoCancel evs) : Inv (run true (init n) evs) :=
  List.foldlRecOn (motive := Inv) evs _ (inv_init n) fun s h e he => step_inv s h e (hnc e he)

theorem one_holder (n : Nat) (evs : List Ev) (hnc : NoCancel evs) : active (run true (init n) evs).ths ≤ 1 := by
  rw [(reachable_inv n evs hnc).1]; split <;> decide

theorem ok_has_output (n : Nat) (evs : List Ev) (hnc : NoCancel evs) (h : (run true (init n) evs).st = .ok) :
    (run true (init n) evs).out = true := (reachable_inv n evs hnc).2 h

theorem success_reply_has_output (s : S) (h : Inv s) (e : Ev) (hnc : e.isCancel = false) (i : Nat)
    (hr : (step true s e).replies = (i, .ok) :: s.replies) :
    (step true s e).st = .ok ∧ (step true s e).out = true :=
  have ⟨hinv, hok⟩ := step_ok s h e hnc
  ⟨hok i hr, hinv.2 (hok i hr)⟩

/-- The code's behaviour, outside the theorems above: call 1 waits for call 0, its context is cancelled — the task is marked
failed although call 0 still executes it — and call 2 then executes the "failed" task a second time, concurrently. -/
theorem cancel_breaks_one_holder :
    active (run true (init 3) [.runEnter 0, .runEnter 1, .cancel 1, .runEnter 2]).ths = 2 := by decide +kernel

/-- not what the code does (`run false`): a Run call that waits while a Discard call deletes the output reports success -/
theorem lost_as_success_unsafe :
    let s := run false (init 3) [.runEnter 0, .finOk 0, .discEnter 1, .runEnter 2, .discStore 1, .discFin 1, .wake 2]
    s.st = .ok ∧ s.out = false ∧ s.replies.head? = some (2, .ok) := by decide +kernel

/-- the same calls with the code's behaviour: the waiting call reports the loss; the next Run call revives the task -/
example :
    let s := run true (init 4) [.runEnter 0, .finOk 0, .discEnter 1, .runEnter 2, .discStore 1, .discFin 1, .wake 2,
      .runEnter 3, .finOk 3]
    s.st = .ok ∧ s.out = true ∧ s.ths = [.idle, .idle, .idle, .idle] ∧ s.replies.map (·.2) = [.ok, .err, .none, .ok] := by decide +kernel

end BS.WorkerTask
