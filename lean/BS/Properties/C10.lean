import BS.Proofs.KV
/-!
# C10 — external sort, merge and reduce-merge are correct at any spill size

Specifications as list functions, with the laws the property states: the
sorting reader's output is a key-ordered permutation of its input; merging
key-ordered streams yields their key-ordered union; the reducing merge of
streams is the fold by key of everything they hold, independent of how rows are
distributed over streams and runs.  Spill size, canary size and upstream chunking do not appear in the specifications.
-/
namespace BS.KV

theorem merge2_eq_merge (a b : List KV) : merge2 a b = List.merge a b fun x y => decide (x.1 ≤ y.1) := by
  fun_induction merge2 a b with
  | case1 => simp
  | case2 => simp
  | case3 x xs y ys hlt ih => simp [ih, Int.not_le.mpr hlt]
  | case4 x xs y ys hge ih => simp [ih, Int.not_lt.mp hge]

theorem merge2_perm (a b : List KV) : (merge2 a b).Perm (a ++ b) :=
  merge2_eq_merge a b ▸ List.merge_perm_append _

theorem merge2_sorted (a b : List KV) (ha : Sorted a) (hb : Sorted b) : Sorted (merge2 a b) := by
  rw [merge2_eq_merge]
  exact (List.pairwise_merge (le := fun x y : KV => decide (x.1 ≤ y.1))
    (fun _ _ _ h₁ h₂ => decide_eq_true (Int.le_trans (of_decide_eq_true h₁) (of_decide_eq_true h₂)))
    (fun x y => by simpa using Int.le_total x.1 y.1) a b
    (ha.imp decide_eq_true) (hb.imp decide_eq_true)).imp of_decide_eq_true

theorem insertSorted_eq_merge2 (r : KV) (l : List KV) : insertSorted r l = merge2 l [r] := by
  fun_induction insertSorted r l <;> simp [merge2, *]

theorem sortKV_perm (rows : List KV) : (sortKV rows).Perm rows := by
  induction rows with
  | nil => exact .refl _
  | cons r rs ih =>
    rw [sortKV, List.foldr_cons, insertSorted_eq_merge2]
    exact (merge2_perm _ [r]).trans (List.perm_append_singleton r _) |>.trans (ih.cons r)

theorem sortKV_sorted (rows : List KV) : Sorted (sortKV rows) :=
  List.foldrRecOn rows _ .nil fun l hl r _ =>
    insertSorted_eq_merge2 r l ▸ merge2_sorted l [r] hl (List.pairwise_singleton _ r)

theorem flatten_map_sortKV_perm (runs : List (List KV)) : (runs.map sortKV).flatten.Perm runs.flatten := by
  induction runs with
  | nil => exact .refl _
  | cons r rs ih => exact (sortKV_perm r).append ih

/-- merging sorted streams (0, 1 or many; some empty) emits their sorted union -/
theorem mergeAll_spec (ss : List (List KV)) (h : ∀ s ∈ ss, Sorted s) :
    Sorted (mergeAll ss) ∧ (mergeAll ss).Perm ss.flatten := by
  induction ss with
  | nil => exact ⟨.nil, .refl _⟩
  | cons s ss ih =>
    obtain ⟨hsorted, hperm⟩ := ih fun t ht => h t (List.mem_cons_of_mem _ ht)
    exact ⟨merge2_sorted s _ (h s List.mem_cons_self) hsorted, (merge2_perm s _).trans (hperm.append_left s)⟩

theorem reduceAll_strictSorted (comb) (ss : List (List KV)) : StrictSorted (reduceAll comb ss) :=
  foldMap_strictSorted comb _

/-- for a commutative, associative combine function the reducing merge does not depend on how the rows are spread over
the streams -/
theorem reduceAll_streams_irrelevant (comb) (hc : ∀ a b, comb a b = comb b a)
    (ha : ∀ a b c, comb (comb a b) c = comb a (comb b c)) (ss ts : List (List KV))
    (h : ss.flatten.Perm ts.flatten) : reduceAll comb ss = reduceAll comb ts :=
  foldMap_perm comb hc ha _ _ h

/-- sorting then reduce-merging = folding the unsorted input (what Reduce computes per shard) -/
theorem reduce_of_sorted_runs (comb) (hc : ∀ a b, comb a b = comb b a)
    (ha : ∀ a b c, comb (comb a b) c = comb a (comb b c)) (runs : List (List KV)) :
    reduceAll comb (runs.map sortKV) = foldMap comb runs.flatten :=
  foldMap_perm comb hc ha _ _ (flatten_map_sortKV_perm runs)

example : mergeAll [[(1, 1), (4, 4)], [], [(2, 2), (4, 5)]] = [(1, 1), (2, 2), (4, 4), (4, 5)] := by
  simp [mergeAll, merge2]

end BS.KV
