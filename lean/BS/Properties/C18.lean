import BS.Model.Typecheck
/-!
# C18 — operator constructors accept exactly the documented type schemas

The checks of `BS.Typecheck` are the documented schemas; the theorems below
characterise the applicability relation they are built from, for **all** types
of the universe (closed under `slice`), not a finite sample.
-/
namespace BS.Typecheck

theorem assignable_refl (t : Ty) : assignable t t = true := by simp [assignable]

/-- only an implementing type is assignable to an interface; everything else needs identity -/
theorem assignable_iff (t u : Ty) : assignable t u = true ↔ t = u ∨ (u = .iface ∧ t = .impl) := by
  simp [assignable]

theorem allAssignable_eq_isEqv : ∀ as ps : List Ty, allAssignable as ps = as.isEqv ps assignable
  | [], [] | [], _ :: _ | _ :: _, [] => rfl
  | a :: as, p :: ps => congrArg (assignable a p && ·) (allAssignable_eq_isEqv as ps)

theorem allAssignable_iff (as ps : List Ty) :
    allAssignable as ps = true ↔ as.length = ps.length ∧ ∀ i (h₁ : i < as.length) (h₂ : i < ps.length),
      assignable as[i] ps[i] = true := by
  rw [allAssignable_eq_isEqv, List.isEqv_eq_decide]
  split
  next h =>
    rw [decide_eq_true_eq]
    exact ⟨fun H => ⟨h, fun i h₁ _ => H i h₁⟩, fun H i h' => H.2 i h' (h ▸ h')⟩
  next h => exact ⟨nofun, fun H => absurd H.1 h⟩

/-- `arg` is the argument list after a leading context parameter, if any, has been stripped. -/
theorem canApply_nonvariadic (ins outs arg : List Ty) :
    canApply ⟨ins, outs, false⟩ arg = true ↔
      arg.length = ins.length ∧ ∀ i (h₁ : i < arg.length) (h₂ : i < ins.length), assignable arg[i] ins[i] = true := by
  simp [canApply, allAssignable_iff]

/-- `func(p₁,…,pₖ, v ...T)`: the first `k` columns go to the fixed parameters, every further column must be assignable to
`T` (zero further columns are fine) -/
theorem canApply_variadic (fixed outs arg : List Ty) (v : Ty) :
    canApply ⟨fixed ++ [.slice v], outs, true⟩ arg = true ↔
      fixed.length ≤ arg.length ∧ allAssignable (arg.take fixed.length) fixed = true ∧
        ∀ a ∈ arg.drop fixed.length, assignable a v = true := by
  simp only [canApply, ↓reduceIte, List.getLast?_concat, List.dropLast_concat, Bool.and_eq_true,
    decide_eq_true_eq, List.all_eq_true, and_assoc]

/-- A variadic function whose last parameter is not a slice cannot arise from Go. -/
theorem canApply_variadic_malformed (ins outs arg : List Ty)
    (h : ∀ v, ins.getLast? ≠ some (.slice v)) : canApply ⟨ins, outs, true⟩ arg = false := by
  -- `h` is the side condition of the fall-through equation of the `match` in `canApply`: `simp` finds it
  simp only [canApply, ↓reduceIte]

theorem map_result (s : STy) (fn : Fn) (r : STy) (h : checkMap s fn = some r) :
    r.cols = fn.outs ∧ r.pfx = s.pfx ∧ fn.outs ≠ [] := by
  obtain ⟨hg, rfl⟩ := Option.ite_some_none_eq_some.1 h
  simp only [Bool.and_eq_true, decide_eq_true_eq] at hg
  exact ⟨rfl, rfl, List.ne_nil_of_length_pos hg.2⟩

theorem filter_result (s : STy) (fn : Fn) (r : STy) (h : checkFilter s fn = some r) : r = s :=
  (Option.ite_some_none_eq_some.1 h).2.symm

theorem prefixed_result (s : STy) (p : Nat) (r : STy) (h : checkPrefixed s p = some r) :
    r.cols = s.cols ∧ r.pfx = p ∧ 1 ≤ p ∧ p ≤ s.cols.length := by
  obtain ⟨hg, rfl⟩ := Option.ite_some_none_eq_some.1 h
  exact ⟨rfl, rfl, by simpa using hg⟩

theorem reduce_result (s : STy) (fn : Fn) (r : STy) (h : checkReduce s fn = some r) :
    r = s ∧ s.cols.length = s.pfx + 1 ∧ keysOk s = true := by
  revert h
  fun_cases checkReduce s fn with
  | case1 hg =>
    rintro ⟨⟩
    simpa using hg
  | case2 | case3 | case4 => nofun

/-- that the number of results was not checked is defect D10 (known_findings.json: fixed) -/
theorem readerFunc_results (fn : Fn) (r : STy) (h : checkReaderFunc fn = some r) : fn.outs = [.int, .err] := by
  revert h
  fun_cases checkReaderFunc fn with
  | case1 _ _ _ _ ho => exact fun _ => beq_iff_eq.1 ho
  | case2 | case3 => nofun

/-- the key is hashable, comparable and accumulable; the function takes the accumulator followed by the residual columns -/
theorem fold_result (s : STy) (fn : Fn) (r : STy) (h : checkFold s fn = some r) :
    ∃ k rest acc, s.cols = k :: rest ∧ rest ≠ [] ∧ fn.outs = [acc] ∧ fn.ins = acc :: rest ∧
      hasOps k = true ∧ canAccum k = true ∧ r = ⟨[k, acc], s.pfx⟩ := by
  revert h
  fun_cases checkFold s fn with
  | case1 k rest acc hc ho hg =>
    rintro ⟨⟩
    simp only [Bool.and_eq_true, decide_eq_true_eq, beq_iff_eq, and_assoc] at hg
    obtain ⟨hl, hk, ha, hi⟩ := hg
    exact ⟨k, rest, acc, ho, List.ne_nil_of_length_pos hl, hc, hi, hk, ha, rfl⟩
  | case2 | case3 => nofun

/-- the function's results are vectors; the result slice has their element types -/
theorem flatmap_result (s : STy) (fn : Fn) (r : STy) (h : checkFlatmap s fn = some r) :
    canApply fn s.cols = true ∧ devectorize fn.outs = some r.cols ∧ r.pfx = s.pfx := by
  obtain ⟨hc, hm⟩ := Option.ite_none_right_eq_some.1 h
  obtain ⟨o, ho, rfl⟩ := Option.map_eq_some_iff.1 hm
  exact ⟨hc, ho, rfl⟩

theorem reshuffle_result (s r : STy) (h : checkReshuffle s = some r) : r = s ∧ keysOk s = true := by
  obtain ⟨hg, rfl⟩ := Option.ite_some_none_eq_some.1 h
  exact ⟨rfl, hg⟩

/-- `func(nshard int, cols…) int` exactly -/
theorem repartition_result (s : STy) (fn : Fn) (r : STy) (h : checkRepartition s fn = some r) :
    r = s ∧ fn.ins = .int :: s.cols ∧ fn.outs = [.int] := by
  obtain ⟨hg, rfl⟩ := Option.ite_some_none_eq_some.1 h
  exact ⟨rfl, by simpa using hg⟩

/-- takes `(shard int, state, err error, cols… []t)`, returning `error` -/
theorem writerFunc_result (s : STy) (fn : Fn) (r : STy) (h : checkWriterFunc s fn = some r) :
    r = s ∧ fn.outs = [.err] ∧ ∃ st, fn.ins = .int :: st :: .err :: s.cols.map Ty.slice := by
  revert h
  fun_cases checkWriterFunc s fn with
  | case1 st cols hins hg =>
    rintro ⟨⟩
    simp only [Bool.and_eq_true, beq_iff_eq] at hg
    exact ⟨rfl, hg.2, st, hg.1 ▸ hins⟩
  | case2 | case3 => nofun

/-- every input has the first input's key prefix; the result has those key columns followed by one slice-typed column per
value column of every input, in order -/
theorem cogroup_result (ss : List STy) (r : STy) (h : checkCogroup ss = some r) :
    ∃ s0 rest, ss = s0 :: rest ∧ 1 ≤ s0.pfx ∧ r.pfx = s0.pfx ∧
      (∀ s ∈ ss, s.pfx = s0.pfx ∧ s.cols.take s.pfx = s0.cols.take s0.pfx ∧ 1 ≤ s.cols.length) ∧
      (s0.cols.take s0.pfx).all hasOps = true ∧
      r.cols = s0.cols.take s0.pfx ++ ss.flatMap (fun s => (s.cols.drop s.pfx).map Ty.slice) := by
  cases ss with
  | nil => cases h
  | cons s0 rest =>
    obtain ⟨hg, rfl⟩ := Option.ite_some_none_eq_some.1 h
    simp only [Bool.and_eq_true, List.all_eq_true, decide_eq_true_eq, beq_iff_eq] at hg
    obtain ⟨⟨hall, hops⟩, hp⟩ := hg
    exact ⟨s0, rest, rfl, hp, rfl, fun s hs => ⟨(hall s hs).1.2, (hall s hs).2, (hall s hs).1.1⟩,
      List.all_eq_true.2 hops, rfl⟩

example : checkMap ⟨[.int, .impl], 1⟩ ⟨[.int, .iface], [.i64, .str], false⟩ = some ⟨[.i64, .str], 1⟩ := rfl
example : checkCogroup [⟨[.int, .str], 1⟩, ⟨[.int, .f64, .bool], 1⟩]
    = some ⟨[.int, .slice .str, .slice .f64, .slice .bool], 1⟩ := rfl

end BS.Typecheck
