import BS.Model.Wake
/-!
# C19 / C03 (wake-ups) — no evaluation is left waiting for a task state change that has happened

`no_lost_wakeup`: along every interleaving of waits, broadcasts, abandoned waits and wake-ups,
every blocked waiter blocks on the channel the next broadcast will close, or on one that is closed already.
-/
namespace BS.Wake

/-- `NoLostWakeup`, and every channel id in use is below `next` (fresh channels are new) -/
def Inv (s : St) : Prop :=
  NoLostWakeup s ∧ (∀ c, s.cur = some c → c < s.next) ∧ (∀ c ∈ s.closed, c < s.next) ∧ (∀ p ∈ s.waiting, p.2 < s.next)

theorem inv_init : Inv init := by simp [Inv, NoLostWakeup, init]

theorem Inv.sub {s : St} (h : Inv s) {l : List (Nat × Nat)} (hl : l ⊆ s.waiting) : Inv { s with waiting := l } :=
  ⟨fun p hp => h.1 p (hl hp), h.2.1, h.2.2.1, fun p hp => h.2.2.2 p (hl hp)⟩

theorem step_inv (s : St) (op : Op) (h : Inv s) : Inv (step false s op) := by
  obtain ⟨h1, h2, h3, h4⟩ := h
  cases op with
  | wait w =>
    dsimp only [step]
    split
    next c hc => exact ⟨List.forall_mem_cons.mpr ⟨.inl hc, h1⟩, h2, h3, List.forall_mem_cons.mpr ⟨h2 c hc, h4⟩⟩
    next hc =>
      -- a fresh channel: the waiters registered earlier block on closed channels
      exact ⟨List.forall_mem_cons.mpr ⟨.inl rfl, fun p hp => .inr ((h1 p hp).resolve_left (by rw [hc]; nofun))⟩,
        fun c h => by cases h; exact Nat.lt_succ_self _, fun c h => Nat.lt_succ_of_lt (h3 c h),
        List.forall_mem_cons.mpr ⟨Nat.lt_succ_self _, fun p hp => Nat.lt_succ_of_lt (h4 p hp)⟩⟩
  | broadcast =>
    dsimp only [step]
    split
    next c hc =>
      refine ⟨fun p hp => .inr ((h1 p hp).elim (fun h => ?_) (.tail _)), nofun, List.forall_mem_cons.mpr ⟨h2 c hc, h3⟩, h4⟩
      rw [hc] at h; cases h; exact .head _
    next => exact ⟨h1, h2, h3, h4⟩
  | abandon w | wake w => exact Inv.sub ⟨h1, h2, h3, h4⟩ List.filter_sublist.subset

theorem no_lost_wakeup (ops : List Op) : NoLostWakeup (ops.foldl (step false) init) :=
  (List.foldlRecOn (motive := Inv) ops _ inv_init fun s h op _ => step_inv s op h).1

/-- hence a blocked waiter whose channel is no longer the task's current one can wake -/
theorem woken_after_broadcast (ops : List Op) (w c : Nat)
    (hw : (w, c) ∈ (ops.foldl (step false) init).waiting) (hcur : (ops.foldl (step false) init).cur ≠ some c) :
    c ∈ (ops.foldl (step false) init).closed :=
  (no_lost_wakeup ops (w, c) hw).resolve_left hcur

/-- `abandonClears := true`, the trial change `seeded/C03-wait-clears-shared-channel`: waiter 1 gives up and clears the shared
channel; the broadcast closes nothing; waiter 2 is stranded on a channel that is neither current nor closed -/
theorem abandon_clears_loses_wakeup :
    ¬ NoLostWakeup ([Op.wait 1, Op.wait 2, Op.abandon 1, Op.broadcast].foldl (step true) init) :=
  fun h => absurd (h (2, 0) (by decide)) (by decide)

example : ([Op.wait 1, Op.wait 2, Op.abandon 1, Op.broadcast, Op.wake 2].foldl (step false) init).waiting = [] := by decide +kernel

end BS.Wake
