import BS.Proofs.MergeSort
import BS.Properties.C09
import BS.Properties.C10
/-!
# C10 (the reduce-merge machine) — `sortio.Reduce` as it runs

`BS.Merge.run` is the round structure of `reader.Read` (sortio/reader.go:48-130, the loop at :83-124): pop every cursor
at the smallest key, combine, emit, advance.  `reduce_machine_spec`: on strictly sorted streams (the output of combiners
and of earlier reduces) and for a commutative, associative combine function it emits exactly the keyed fold of all rows.
-/
namespace BS.Merge
open BS.KV

theorem reduce_machine_spec (comb : Int → Int → Int) (hc : ∀ a b, comb a b = comb b a)
    (ha : ∀ a b c, comb (comb a b) c = comb a (comb b c)) (ss : List (List KV)) (hs : AllStrict ss) :
    run comb (ss.flatten.length + 1) ss = reduceAll comb ss :=
  run_spec comb hc ha _ ss hs (Nat.lt_succ_self _)

theorem reduce_machine_sorted (comb : Int → Int → Int) (hc : ∀ a b, comb a b = comb b a)
    (ha : ∀ a b c, comb (comb a b) c = comb a (comb b c)) (ss : List (List KV)) (hs : AllStrict ss) :
    StrictSorted (run comb (ss.flatten.length + 1) ss) := by
  rw [reduce_machine_spec comb hc ha ss hs]; exact reduceAll_strictSorted comb ss

example : run (· + ·) 10 [[(1, 1), (4, 4)], [], [(1, 10), (2, 2), (4, 40)]] = [(1, 11), (2, 2), (4, 44)] := rfl

/-- the machines composed: however a Reduce's input is cut into segments (by producer task, spill threshold, machine
combiner), folding each segment (what a combining frame holds, C09t) and running the reduce-merge machine over the folded
runs yields the fold of the whole input. -/
theorem combine_then_reduce_machine (comb : Int → Int → Int) (hc : ∀ a b, comb a b = comb b a)
    (ha : ∀ a b c, comb (comb a b) c = comb a (comb b c)) (segs : List (List KV)) :
    run comb ((segs.map (foldMap comb)).flatten.length + 1) (segs.map (foldMap comb)) = foldMap comb segs.flatten :=
  (reduce_machine_spec comb hc ha _ (List.forall_mem_map.mpr fun s _ => foldMap_strictSorted comb s)).trans
    (spill_runs_spec comb hc ha segs)

/-! ## the plain merge reader as it runs (`NewMergeReader`, sortio/sort.go:161-222)

`mrun choose` emits the row under a cursor whose key is least and advances it; which of several equal cursors is at the
top of the heap is left to `choose`.  For every legal choice the output is a permutation of all rows and sorted by key. -/
theorem merge_machine_spec (choose : List (List KV) → Nat) (hch : ∀ ss, minKey ss ≠ none → Legal ss (choose ss))
    (ss : List (List KV)) (hs : AllSorted ss) :
    (mrun choose ss.flatten.length ss).Perm ss.flatten ∧ Sorted (mrun choose ss.flatten.length ss) :=
  mrun_spec choose hch _ ss hs (Nat.le_refl _)

/-- the hypothesis is satisfiable: `leftmost` is the oracle of the driver -/
theorem merge_machine_leftmost (ss : List (List KV)) (hs : AllSorted ss) :
    (mrun leftmost ss.flatten.length ss).Perm ss.flatten ∧ Sorted (mrun leftmost ss.flatten.length ss) :=
  merge_machine_spec leftmost leftmost_legal ss hs

/-- external sort composed: however the input is cut into runs (spill sizes, canary), sorting each run and merging them
with any legal heap behaviour yields the input's rows sorted by key -/
theorem sort_runs_then_merge_machine (choose : List (List KV) → Nat)
    (hch : ∀ ss, minKey ss ≠ none → Legal ss (choose ss)) (runs : List (List KV)) :
    let out := mrun choose (runs.map sortKV).flatten.length (runs.map sortKV)
    out.Perm runs.flatten ∧ Sorted out := by
  obtain ⟨hp, hso⟩ := merge_machine_spec choose hch (runs.map sortKV)
    (List.forall_mem_map.mpr fun r _ => sortKV_sorted r)
  exact ⟨hp.trans (flatten_map_sortKV_perm runs), hso⟩

example : mrun leftmost 6 [[(1, 1), (4, 4)], [], [(1, 10), (2, 2), (4, 40)]] = [(1, 1), (1, 10), (2, 2), (4, 4), (4, 40)] :=
  rfl

end BS.Merge
