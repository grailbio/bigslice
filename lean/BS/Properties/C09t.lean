import BS.Proofs.Table
/-!
# C09 (hash table) — the combining frame holds one correctly folded value per key at any size

`BS.Table` models `combiningFrame` slot by slot: hashing, triangular probing, the equality test, in-place combination,
the load threshold, doubling and rehashing.  `combining_frame_spec`: for every hash function, every initial
capacity `2^m`, every sequence of rows, `Combine` never fails to find a slot, keeps the invariant and load ≤ 70 %
(`Good`), and the table holds exactly the entries of the keyed fold `foldMap comb rows` — what `Compact` hands to
the sorter (C10).  Commutativity of `comb` is not needed (rows are folded in arrival order).
-/
namespace BS.Table
open BS.KV

theorem combining_frame_spec (comb : Int → Int → Int) (h : Int → Nat) (m0 : Nat) (rows : List KV) :
    ∃ tb, combineAll comb h (empty (2 ^ m0)) rows = some tb ∧ Good h tb ∧
      (∀ k v, Has tb k v ↔ (k, v) ∈ foldMap comb rows) ∧ (entries tb).Perm (foldMap comb rows) := by
  have hg : Good h (empty (2 ^ m0)) := ⟨inv_empty m0, Nat.zero_le _⟩
  obtain ⟨tb, hc, hg', hr⟩ := combineAll_spec comb h rows (empty (2 ^ m0)) [] hg List.Pairwise.nil
    (fun _ _ => iff_of_false not_has_empty List.not_mem_nil)
  refine ⟨tb, hc, hg', hr, ?_⟩
  apply (List.perm_ext_iff_of_nodup (entries_nodup hg'.1) (foldMap_strictSorted comb rows).nodup).mpr
  intro x
  obtain ⟨k, v⟩ := x
  rw [mem_entries hg'.1 k v]
  exact hr k v

/-- the code's probe sequence (`idx ← (idx + try) & mask`) is the model's closed form -/
theorem probe_recurrence (h : Int → Nat) (cap : Nat) (k : Int) (t : Nat) : pidxRec h cap k t = pidx h cap k t := by
  induction t with
  | zero => rfl
  | succ t ih =>
    have htri : (t + 1) * (t + 1 + 1) / 2 = t * (t + 1) / 2 + (t + 1) := by
      rw [Nat.mul_comm, Nat.add_mul t 2, Nat.add_mul_div_left _ _ (by decide)]
    simp only [pidxRec, ih, pidx]
    rw [htri, Nat.add_mod, Nat.mod_mod, ← Nat.add_mod, Nat.add_assoc]

example : (combineAll (· + ·) (fun k => k.toNat * 7) (empty 2) [(3, 1), (1, 5), (3, 2), (2, 7), (1, 1), (9, 9)]).map
    (fun t => (t.cap, t.len, entries t)) = some (8, 4, [(9, 9), (3, 3), (2, 7), (1, 6)]) := rfl

end BS.Table
