import BS.Model.Codec
/-!
# C07 — row streams decode to the rows written; corruption is detected, never returned

A batch on the wire is `ok rows` or `bad`: that a damaged batch reports an error is what `bad` means
here.  What ties `bad` to damaged bytes is the checksum theorem of C07c and the encode/decode runs with damage (T1).
`dec_read_le`, `dec_sticky`: a call never returns more rows than the destination holds; after an error every call
returns that error and no rows.
-/
namespace BS.Codec

def Dec.mu {α} (d : Dec α) : Nat := d.batches.length

section read
variable {α : Type} (bs : List (Batch α)) (buf b : List α) (x : α) (k : Nat)

@[simp] theorem Dec.read_failed : (⟨bs, buf, true⟩ : Dec α).read k = (⟨bs, buf, true⟩, [], .err) := rfl

@[simp] theorem Dec.read_buf :
    (⟨bs, x :: buf, false⟩ : Dec α).read k = (⟨bs, (x :: buf).drop k, false⟩, (x :: buf).take k, .more) := rfl

@[simp] theorem Dec.read_nil : (⟨[], [], false⟩ : Dec α).read k = (⟨[], [], false⟩, [], .eof) := rfl

@[simp] theorem Dec.read_bad : (⟨.bad :: bs, [], false⟩ : Dec α).read k = (⟨.bad :: bs, [], true⟩, [], .err) := rfl

@[simp] theorem Dec.read_ok :
    (⟨.ok b :: bs, [], false⟩ : Dec α).read k = (⟨bs, b.drop k, false⟩, b.take k, .more) := by
  show (if b.length ≤ k then _ else _) = _
  split
  · next h => rw [List.drop_of_length_le h, List.take_of_length_le h]
  · rfl

end read

/-- The measure: a batch larger than the destination leaves its rest in `buf`, so `buf` may grow by what `bs` loses. -/
theorem drainDec_spec {α} (dest : Nat → Nat) (hd : ∀ i, 0 < dest i) (fuel i : Nat) (bs : List (Batch α)) (buf : List α)
    (hf : bs.length + buf.length + (goodPrefix bs).1.length < fuel) :
    drainDec dest fuel i ⟨bs, buf, false⟩ = (buf ++ (goodPrefix bs).1, if (goodPrefix bs).2 then .err else .eof) := by
  induction fuel generalizing i bs buf with
  | zero => exact absurd hf (Nat.not_lt_zero _)
  | succ fuel ih =>
    obtain _ | ⟨x, xs⟩ := buf
    · obtain _ | ⟨b | _, bs⟩ := bs
      · rfl
      · have hle := (List.drop_sublist (dest i) b).length_le
        simp only [goodPrefix, List.length_append, List.length_cons, List.length_nil] at hf
        simp only [drainDec, Dec.read_ok]
        rw [ih _ _ _ (by omega), ← List.append_assoc, List.take_append_drop]
        rfl
      · rfl
    · have hlt : ((x :: xs).drop (dest i)).length < (x :: xs).length := by
        rw [List.length_drop]; exact Nat.sub_lt (Nat.succ_pos _) (hd i)
      simp only [drainDec, Dec.read_buf]
      rw [ih _ _ _ (by omega), ← List.append_assoc, List.take_append_drop]

theorem goodPrefix_okBatches_append {α} (bs : List (List α)) (rest : List (Batch α)) :
    goodPrefix (okBatches bs ++ rest) = (bs.flatten ++ (goodPrefix rest).1, (goodPrefix rest).2) := by
  induction bs with
  | nil => rfl
  | cons b bs ih =>
    show goodPrefix (.ok b :: (okBatches bs ++ rest)) = _
    rw [goodPrefix, ih, List.flatten_cons, List.append_assoc]

/-- Every destination-size sequence (each ≥ 1) and every batching, including empty batches and batches larger than the
destination, yields the rows written, then a clean end-of-stream. -/
theorem decode_encode {α} (batches : List (List α)) (dest : Nat → Nat) (hd : ∀ i, 0 < dest i) :
    ∃ fuel, drainDec dest fuel 0 ⟨okBatches batches, [], false⟩ = (batches.flatten, .eof) := by
  have hg := goodPrefix_okBatches_append batches []
  rw [List.append_nil] at hg
  exact ⟨_, by simpa [hg, goodPrefix] using drainDec_spec dest hd _ 0 (okBatches batches) [] (Nat.lt_succ_self _)⟩

/-- a damaged batch is never returned: the reader fails at it, having delivered exactly
the rows of the intact batches before it -/
theorem damaged_batch_rejected {α} (pre : List (List α)) (post : List (Batch α)) (dest : Nat → Nat)
    (hd : ∀ i, 0 < dest i) :
    ∃ fuel, drainDec dest fuel 0 ⟨okBatches pre ++ .bad :: post, [], false⟩ = (pre.flatten, .err) :=
  ⟨_, by simpa [goodPrefix_okBatches_append, goodPrefix] using
    drainDec_spec dest hd _ 0 (okBatches pre ++ .bad :: post) [] (Nat.lt_succ_self _)⟩

theorem dec_read_le {α} (d : Dec α) (k : Nat) : (d.read k).2.1.length ≤ k := by
  fun_cases Dec.read d k <;> simp [Nat.min_le_left, *]

theorem dec_sticky {α} (d : Dec α) (k k' : Nat) (h : (d.read k).2.2 ≠ .more) :
    ((d.read k).1.read k').2 = ([], (d.read k).2.2) := by
  obtain ⟨bs, buf, _ | _⟩ := d
  · obtain _ | ⟨x, xs⟩ := buf
    · obtain _ | ⟨b | _, bs⟩ := bs
      · rfl
      · rw [Dec.read_ok] at h; cases h rfl
      · rw [Dec.read_bad, Dec.read_failed]
    · rw [Dec.read_buf] at h; cases h rfl
  · rw [Dec.read_failed, Dec.read_failed]

example : drainDec (fun _ => 2) 10 0 ⟨[.ok [1, 2, 3], .ok [], .ok [4], .bad, .ok [5]], [], false⟩
    = ([1, 2, 3, 4], .err) := by decide

end BS.Codec
