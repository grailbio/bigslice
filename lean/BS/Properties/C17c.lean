import BS.Proofs.Cogroup
import BS.Properties.C10
/-!
# C17 (the cogroup reader as it runs) — `cogroupReader.Read`, cogroup.go:123-265

`BS.Merge.cgRun` is the round structure of the reader: take the least current key, gather from every (sorted) input all of
its rows under that key, emit one row, go on with what is left.  `cogroup_machine_spec`: the emitted rows have strictly
ascending keys, each carries exactly the values every input holds for its key (in the input's order), and every key that
occurs gets a row.  The inputs are sorted first (`sortio.SortReader`, C10): by `cogroup_of_unsorted` the values a sorted
input holds for a key are a rearrangement of those the input held.
-/
namespace BS.Merge
open BS.KV

theorem cogroup_machine_spec (ss : List (List KV)) (hs : AllSorted ss) :
    let out := cgRun (ss.flatten.length + 1) ss
    out.Pairwise (fun a b => a.1 < b.1) ∧
    (∀ row ∈ out, row.2 = groupsOf row.1 ss ∧ ∃ x ∈ ss.flatten, x.1 = row.1) ∧
    (∀ x ∈ ss.flatten, ∃ row ∈ out, row.1 = x.1) :=
  cgRun_spec _ ss hs (Nat.lt_succ_self _)

theorem cogroup_of_unsorted (s : List KV) (k : Int) :
    (((sortKV s).filter fun r => r.1 = k).map (·.2)).Perm ((s.filter fun r => r.1 = k).map (·.2)) :=
  ((sortKV_perm s).filter _).map _

theorem groupsOf_sorted (ins : List (List KV)) (k : Int) :
    groupsOf k (ins.map sortKV) = ins.map fun s => ((sortKV s).filter fun r => r.1 = k).map (·.2) := by
  rw [groupsOf, List.map_map]; rfl

theorem sorted_inputs (ins : List (List KV)) : AllSorted (ins.map sortKV) :=
  List.forall_mem_map.mpr fun r _ => sortKV_sorted r

example : cgRun 9 [[(1, 10), (1, 11), (3, 30)], [], [(1, 12), (2, 20)]] =
    [(1, [[10, 11], [], [12]]), (2, [[], [], [20]]), (3, [[30], [], []])] := rfl

end BS.Merge
