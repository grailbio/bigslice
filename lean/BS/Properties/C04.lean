import BS.Properties.C01
/-!
# C04 — results do not depend on how the computation is executed

Everything the property quantifies over is a component of `Exec.Strategy`: destination sizes
(vector size), the chunking and EOF placement of every upstream (pipelined vs materialised, local
vs remote store reads), and at every shuffle the rearrangement of the producers' partitions into
streams (which machine ran which producer, machine-local combiners on or off, spill batch and
sort canary, reader shuffling, scheduling order).  Pragmas are not even arguments of the meaning.
`strategy_independent`: any two valid strategies produce, for every program and input, results
that agree shard by shard (identical where the order is fixed, equal multisets otherwise);
`counters_independent`: and the same user counters, where these are defined (`countersDefined`).
The `*_valid` lemmas: the rearrangements a run performs, each in the form `Strategy.Valid` asks of `arrange` (the streams
together hold the partitions' rows).
-/
namespace BS.Exec
open BS.Prog BS.KV BS.Part BS.Sem BS.Reader

theorem exec_congr (σ₁ σ₂ : Strategy) (h₁ : σ₁.Valid) (h₂ : σ₂.Valid) (p : Program) {res₁ res₂ : List Shards}
    (hr : All2 Sim res₁ res₂) (hwf : wfNodes res₂ p.nodes [] = true) :
    All2 Sim (exec σ₁ p res₁).1 (exec σ₂ p res₂).1 ∧ Sim (exec σ₁ p res₁).2 (exec σ₂ p res₂).2 := by
  obtain ⟨nodes₁, out₁⟩ := exec_refines_sem σ₁ h₁ p hr hwf
  obtain ⟨nodes₂, out₂⟩ := exec_refines_sem σ₂ h₂ p (All2.refl Sim.refl res₂) hwf
  exact ⟨nodes₁.trans (nodes₂.symm Sim.symm) Sim.trans, out₁.trans out₂.symm⟩

theorem strategy_independent (σ₁ σ₂ : Strategy) (h₁ : σ₁.Valid) (h₂ : σ₂.Valid) (p : Program) (res : List Shards)
    (hwf : wfNodes res p.nodes [] = true) :
    Sim (exec σ₁ p res).2 (exec σ₂ p res).2 :=
  (exec_congr σ₁ σ₂ h₁ h₂ p (All2.refl Sim.refl res) hwf).2

theorem strategy_independent_rows (σ₁ σ₂ : Strategy) (h₁ : σ₁.Valid) (h₂ : σ₂.Valid) (p : Program) (res : List Shards)
    (hwf : wfNodes res p.nodes [] = true) :
    (exec σ₁ p res).2.rows.flatten.Perm (exec σ₂ p res).2.rows.flatten ∧
      (exec σ₁ p res).2.rows.length = (exec σ₂ p res).2.rows.length :=
  have h := strategy_independent σ₁ σ₂ h₁ h₂ p res hwf
  ⟨h.flatten_perm, h.len⟩

theorem rowCount_sim {a b : Shards} (h : Sim a b) : (a.rows.map List.length).sum = (b.rows.map List.length).sum := by
  rw [← List.length_flatten, ← List.length_flatten]
  exact h.flatten_perm.length_eq

theorem counters_sim (p : Program) {env env' : List Shards} (h : All2 Sim env env') : counters p env = counters p env' := by
  have hc (i : Nat) := rowCount_sim (h.getD i (.refl default))
  simp only [counters, hc]

/-- `countersDefined` delimits where `Exec`'s eager `count` is what the engine does: a counting Map pipelined into a
`Head` is only pulled as far as the Head reads, and then the counters *do* depend on the strategy (defect D16 of
known_findings.json, open: Materialize on the counting Map changes them); the proof does not use the hypothesis, it
states the domain in which the model is faithful. -/
theorem counters_independent (σ₁ σ₂ : Strategy) (h₁ : σ₁.Valid) (h₂ : σ₂.Valid) (p : Program) (res : List Shards)
    (hwf : wfNodes res p.nodes [] = true) (_hc : countersDefined p = true) :
    counters p (exec σ₁ p res).1 = counters p (exec σ₂ p res).1 :=
  counters_sim p (exec_congr σ₁ σ₂ h₁ h₂ p (All2.refl Sim.refl res) hwf).1

/-- pragmas (Materialize, Procs, Exclusive) are not arguments of the meaning of Map -/
theorem pragma_irrelevant (σ : Strategy) (i : Nat) (env res : List Shards) (s : Ref) (f : String) (pr pr' : Pragma) :
    execOp σ i env res (.map s f pr) = execOp σ i env res (.map s f pr') := rfl

/-- producers arrive in the opposite order (scheduling, reader shuffling) -/
theorem reverse_valid (xs : List (List KV)) : (xs.reverse.flatten).Perm xs.flatten :=
  (List.reverse_perm xs).flatten

/-- producers arrive rotated -/
theorem rotate_valid (k : Nat) (xs : List (List KV)) : ((xs.drop k ++ xs.take k).flatten).Perm xs.flatten :=
  (List.perm_append_comm.trans (.of_eq (List.take_append_drop k xs))).flatten

/-- all producers of a machine share one combine buffer: their partitions arrive as one stream -/
theorem one_stream_valid (xs : List (List KV)) : ([xs.flatten] : List (List KV)).flatten.Perm xs.flatten :=
  .of_eq List.flatten_singleton

/-- every row is spilled on its own (spill batch 1): singleton streams -/
theorem singletons_valid (xs : List (List KV)) : ((xs.flatten.map fun r => [r]).flatten).Perm xs.flatten :=
  .of_eq (List.flatMap_singleton' xs.flatten)

theorem arrange_comp (f g : List (List KV) → List (List KV)) (hf : ∀ xs, (f xs).flatten.Perm xs.flatten)
    (hg : ∀ xs, (g xs).flatten.Perm xs.flatten) (xs : List (List KV)) : (f (g xs)).flatten.Perm xs.flatten :=
  (hf _).trans (hg _)

example : demoσ.Valid := demoσ_valid

end BS.Exec
