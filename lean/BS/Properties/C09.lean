import BS.Proofs.KV
/-!
# C09 — combining buffers hold one correctly folded value per key at any size

`foldMap comb rows` is the specification: one row per distinct key, ascending (`foldMap_strictSorted`, Proofs/KV),
carrying the fold of the key's values.  A combiner that spills cuts the input into consecutive segments, folds each
(`foldMap seg`) into a sorted run, and reads back the reducing merge of the runs (`foldMap` over all run rows, C10);
`spill_runs_spec` shows this equals the fold of the whole input for every segmentation — i.e. for every spill threshold
and every growth history — provided the combine function is commutative and associative.
-/
namespace BS.KV

variable (comb : Int → Int → Int)

theorem spill_runs_spec (hc : ∀ a b, comb a b = comb b a) (ha : ∀ a b c, comb (comb a b) c = comb a (comb b c))
    (segs : List (List KV)) :
    reduceAll comb (segs.map (foldMap comb)) = foldMap comb segs.flatten := by
  unfold reduceAll
  induction segs with
  | nil => rfl
  | cons s ss ih =>
    -- the flattened lists are `foldMap comb s ++ _` and `s ++ _`; the run `foldMap comb s` folds to the same as `s`
    exact foldMap_append_congr comb hc ha (foldMap_idem comb (foldMap_strictSorted comb s)) ih

/-- the load threshold is always below the capacity, so the table always has a free slot -/
theorem threshold_lt_cap (k : Nat) : 7 * 2 ^ k / 10 < 2 ^ k :=
  Nat.div_lt_of_lt_mul (Nat.mul_lt_mul_of_pos_right (by decide) (Nat.two_pow_pos k))

example : foldMap (· + ·) [(3, 1), (1, 5), (3, 2), (2, 7), (1, 1)] = [(1, 6), (2, 7), (3, 3)] := rfl

end BS.KV
