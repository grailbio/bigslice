import BS.Proofs.Reader
import BS.Proofs.Flat
import BS.Proofs.Scanner
/-!
# C17 — readers deliver the same rows however they are read

`Lawful R rem mu` packages the per-call obligations; `drain_spec` turns them into: for every sequence of destination
sizes ≥ 1 the delivered rows concatenate to exactly `rem s`.  The scripted upstream is lawful (`up_lawful`), so "for
every lawful upstream" covers every chunking, zero-row reads and both placements of EOF.  Operator readers are lawful
given a lawful upstream, hence so are pipelines.
-/
namespace BS.Reader

theorem map_lawful {α β} (U : Rd α) (f : α → β) (rem : U.σ → List α) (mu : U.σ → Nat)
    (h : Lawful U rem mu) : Lawful (mapRd U f) (fun s => (rem s).map f) mu := .of_step fun s k => by
  obtain ⟨s', out, st, hr, hs⟩ := h.step s k
  exact ⟨s', out.map f, st, by simp [mapRd, hr],
    { len := by simpa using hs.len
      split := by simp [← hs.split]
      eof := fun e => by simp [hs.eof e]
      mono := hs.mono
      prog := by simpa using hs.prog
      sticky := fun e k' => by simp [mapRd, hs.sticky e k'] }⟩

theorem frame_lawful (α : Type) : Lawful (frameRd α) (fun rows => rows) (fun _ => 0) := .of_step fun (s : List α) k => by
  by_cases hd : s.drop k = []
  · exact ⟨s.drop k, s.take k, .eof, by simp [frameRd, hd],
      { len := List.length_take_le k s
        split := List.take_append_drop k s
        eof := fun _ => hd
        mono := Nat.le_refl _
        sticky := fun _ k' => by simp [frameRd, hd] }⟩
  · exact ⟨s.drop k, s.take k, .more, by simp [frameRd, hd],
      { len := List.length_take_le k s
        split := List.take_append_drop k s
        mono := Nat.le_refl _
        prog := fun hk he _ =>
          absurd (by rw [(List.take_eq_nil_iff.1 he).resolve_left (Nat.ne_of_gt hk), List.drop_nil]) hd }⟩

theorem head_lawful {α} (U : Rd α) (rem : U.σ → List α) (mu : U.σ → Nat) (h : Lawful U rem mu) :
    Lawful (headRd U) (fun s => (rem s.up).take s.n) (fun s => mu s.up) := .of_step fun s k => by
  by_cases hn : s.n = 0
  · exact ⟨s, [], .eof, by simp [headRd, hn], .ended (by simp [hn]) fun k' => by simp [headRd, hn]⟩
  · obtain ⟨s', out, st, hr, hs⟩ := h.step s.up (min k s.n)
    exact ⟨⟨s', s.n - out.length⟩, out, st, by simp [headRd, hn, hr],
      { len := Nat.le_trans hs.len (Nat.min_le_left _ _)
        split := by
          rw [← hs.split, List.take_append, List.take_of_length_le (Nat.le_trans hs.len (Nat.min_le_right _ _))]
        eof := fun e => by simp [hs.eof e]
        mono := hs.mono
        prog := fun hk => hs.prog (Nat.lt_min.2 ⟨hk, Nat.pos_of_ne_zero hn⟩)
        sticky := fun e k' => by simp [headRd, hs.sticky e] }⟩

/-- Defect D13 (known_findings.json: fixed; slice.go:988-992 clamps the destination first): `headReader` handed
the whole destination to its upstream and shortened `n` afterwards.  `headBuggyDirty` is the number of rows then
written beyond those returned. -/
def headBuggyDirty {α} (U : Rd α) (s : HeadS U.σ) (k : Nat) : Nat :=
  (U.read s.up k).2.1.length - min (U.read s.up k).2.1.length s.n

theorem headBuggy_writes_beyond :
    ∃ (s : HeadS (List Nat)) (k : Nat), headBuggyDirty (frameRd Nat) s k ≠ 0 :=
  ⟨⟨[1, 2, 3, 4, 5], 2⟩, 4, by decide⟩

/-- each queued constituent counts one more than its own measure, for the call that finds it ended and drops it -/
def multiM {σ} (mu : σ → Nat) (q : List σ) : Nat := (q.map fun s => mu s + 1).sum

theorem multiLoop_nil {α} {U : Rd α} {fuel : Nat} (hf : 0 < fuel) (k : Nat) : multiLoop U fuel [] k = ([], [], .eof) := by
  cases fuel with
  | zero => cases hf
  | succ => rfl

theorem multiLoop_spec {α} {U : Rd α} {rem : U.σ → List α} {mu : U.σ → Nat} (h : Lawful U rem mu)
    {fuelOf : List U.σ → Nat} (hf : 0 < fuelOf []) (fuel : Nat) (q : List U.σ) (k : Nat)
    (hfuel : 0 < k → multiM mu q < fuel) :
    ∃ q' out st, multiLoop U fuel q k = (q', out, st) ∧
      Step (multiRd U fuelOf) (fun q => q.flatMap rem) (multiM mu) q k q' out st := by
  induction fuel generalizing q with
  | zero =>
    -- out of fuel: by `hfuel` only if `k = 0`, and an empty read into an empty destination owes no progress
    exact ⟨q, [], .more, rfl,
      { len := Nat.zero_le _
        split := rfl
        mono := Nat.le_refl _
        prog := fun h => absurd (hfuel h) (Nat.not_lt_zero _) }⟩
  | succ fuel ih =>
    cases q with
    | nil => exact ⟨[], [], .eof, rfl, .ended rfl (multiLoop_nil hf)⟩
    | cons s q =>
      obtain ⟨s', out, st, hr, hs⟩ := h.step s k
      -- a step of the multi reader to the queue `q₁`: at end of stream the constituent is dropped
      -- (`multiM mu (s :: q)` is `mu s + 1 + multiM mu q` by definition)
      obtain ⟨q₁, hloop, hs₁⟩ : ∃ q₁,
          multiLoop U (fuel + 1) (s :: q) k = (if out.isEmpty then multiLoop U fuel q₁ k else (q₁, out, .more)) ∧
          Step (multiRd U fuelOf) (fun q => q.flatMap rem) (multiM mu) (s :: q) k q₁ out .more := by
        cases st with
        | eof =>
          exact ⟨q, by simp [multiLoop, hr],
            { len := hs.len
              split := by simp [hs.out_eq]
              mono := Nat.le_add_left _ _
              prog := fun _ _ _ => Nat.lt_add_of_pos_left (Nat.succ_pos _) }⟩
        | more =>
          exact ⟨s' :: q, by simp [multiLoop, hr],
            { len := hs.len
              split := by simp [← hs.split]
              mono := Nat.add_le_add_right (Nat.succ_le_succ hs.mono) _
              prog := fun hk ho _ => Nat.add_lt_add_right (Nat.succ_lt_succ (hs.prog hk ho rfl)) _ }⟩
      rw [hloop]
      cases out with
      | cons a l => exact ⟨q₁, a :: l, .more, rfl, hs₁⟩
      | nil =>
        obtain ⟨q', out, st, hr', hs'⟩ := ih q₁ fun hk =>
          Nat.lt_of_lt_of_le (hs₁.prog hk rfl rfl) (Nat.le_of_lt_succ (hfuel hk))
        exact ⟨q', out, st, hr', hs₁.retry hs'⟩

/-- No row of a constituent is dropped, whatever way it signals its end. -/
theorem multi_lawful {α} (U : Rd α) (rem : U.σ → List α) (mu : U.σ → Nat) (h : Lawful U rem mu)
    (fuelOf : List U.σ → Nat) (hf : ∀ q, multiM mu q < fuelOf q) :
    Lawful (multiRd U fuelOf) (fun q => q.flatMap rem) (multiM mu) :=
  .of_step fun q k => multiLoop_spec h (Nat.zero_lt_of_lt (hf [])) (fuelOf q) q k fun _ => hf q

/-- Defect D2 (known_findings.json: fixed): the last rows of a constituent that come together with EOF are dropped.
/repo's `switch` at sliceio/reader.go:91-108 and exec/local.go:263-276 returns them (`if n > 0 { return n, nil }`). -/
def multiLoopBuggy {α} (U : Rd α) : Nat → List U.σ → Nat → List U.σ × List α × St
  | 0, q, _ => (q, [], .more)
  | _, [], _ => ([], [], .eof)
  | fuel+1, s :: q, k =>
    let r := U.read s k
    if r.2.2 = .eof then multiLoopBuggy U fuel q k
    else if r.2.1.isEmpty then multiLoopBuggy U fuel (r.1 :: q) k
    else (r.1 :: q, r.2.1, .more)

theorem multiBuggy_loses_rows :
    ∃ (q : List (List Nat)), (multiLoopBuggy (frameRd Nat) 10 q 4).2.1 ++
      (multiLoopBuggy (frameRd Nat) 10 q 4).1.flatMap (fun r => r) ≠ q.flatMap (fun r => r) :=
  ⟨[[1, 2, 3], [4, 5]], by decide⟩

/-- Every upstream read but the last lowers `mu + |rem|`, so one unit of fuel makes `filterRd` lawful; more fuel
only fills the destination further. -/
theorem filterLoop_spec {α} {U : Rd α} {rem : U.σ → List α} {mu : U.σ → Nat} (h : Lawful U rem mu)
    (p : α → Bool) (fuel : Nat) (s : U.σ) (room : Nat) (acc : List α) :
    ∃ s' got e, filterLoop U p fuel s room acc = (s', acc ++ got, e) ∧ got.length ≤ room ∧
      got ++ (if e then [] else (rem s').filter p) = (rem s).filter p ∧
      mu s' + (rem s').length ≤ mu s + (rem s).length ∧
      (0 < fuel → 0 < room → e = false → mu s' + (rem s').length < mu s + (rem s).length) := by
  induction fuel generalizing s room acc with
  | zero => exact ⟨s, [], false, by simp [filterLoop], Nat.zero_le _, rfl, Nat.le_refl _, nofun⟩
  | succ fuel ih =>
    by_cases hroom : room = 0
    · exact ⟨s, [], false, by simp [filterLoop, hroom], Nat.zero_le _, rfl, Nat.le_refl _,
        fun _ h => absurd hroom (Nat.ne_of_gt h)⟩
    · obtain ⟨s', out, st, hr, hs⟩ := h.step s room
      have hlen := Nat.le_trans (List.length_filter_le p out) hs.len
      cases st with
      | eof =>
        exact ⟨s', out.filter p, true, by simp [filterLoop, hroom, hr], hlen, by simp [hs.out_eq], hs.measure_le,
          nofun⟩
      | more =>
        have hlt := hs.measure_lt (Nat.pos_of_ne_zero hroom)
        obtain ⟨s'', got, e, hr', hl, hsp, hm, -⟩ := ih s' (room - (out.filter p).length) (acc ++ out.filter p)
        refine ⟨s'', out.filter p ++ got, e, by simp [filterLoop, hroom, hr, hr'], ?_, ?_,
          Nat.le_trans hm (Nat.le_of_lt hlt), fun _ _ _ => Nat.lt_of_le_of_lt hm hlt⟩
        · rw [List.length_append]; omega
        · rw [List.append_assoc, hsp, ← hs.split, List.filter_append]

theorem filter_lawful {α} (U : Rd α) (p : α → Bool) (rem : U.σ → List α) (mu : U.σ → Nat)
    (h : Lawful U rem mu) (fuelOf : U.σ → Nat) (hf : ∀ s, 0 < fuelOf s) :
    Lawful (filterRd U p fuelOf)
      (fun s => if s.eof then [] else (rem s.up).filter p)
      (fun s => if s.eof then 0 else mu s.up + (rem s.up).length + 1) := .of_step fun s k => by
  obtain ⟨up, eof⟩ := s
  cases eof with
  | true => exact ⟨_, [], .eof, rfl, .ended rfl fun _ => rfl⟩
  | false =>
    obtain ⟨s', got, e, hr, hl, hsp, hm, hp⟩ := filterLoop_spec h p (fuelOf up) up k []
    cases e with
    | true =>
      exact ⟨⟨s', true⟩, got, .eof, by simp [filterRd, hr],
        { len := hl
          split := hsp
          eof := fun _ => rfl
          mono := Nat.zero_le _
          sticky := fun _ _ => rfl }⟩
    | false =>
      exact ⟨⟨s', false⟩, got, .more, by simp [filterRd, hr],
        { len := hl
          split := hsp
          mono := Nat.succ_le_succ hm
          prog := fun hk _ _ => Nat.succ_lt_succ (hp (hf up) hk rfl) }⟩

theorem ite_zero_le (c : Prop) [Decidable c] (n : Nat) : (if c then 0 else n) ≤ n := by
  split
  · exact Nat.zero_le n
  · exact Nat.le_refl n

/-- flatmapReader refines `List.flatMap`: the stash of a result that did not fit, the buffered inputs and the upstream's
remaining rows are delivered in order.  A non-final read with room never comes back empty, so the measure is constant. -/
theorem flat_lawful {α β} (U : Rd α) (g : α → List β) (rem : U.σ → List α) (mu : U.σ → Nat)
    (h : Lawful U rem mu) (fuelOf : U.σ → Nat) (hf : ∀ s, mu s + (rem s).length + 3 ≤ fuelOf s) :
    Lawful (flatRd U g fuelOf)
      (fun s => s.outb ++ s.inb.flatMap g ++ (if s.eof then [] else (rem s.up).flatMap g)) (fun _ => 0) :=
  .of_step fun s k => by
    -- `mu + |rem| + 1` rounds that read the upstream, one on buffered inputs, one to end
    have hfuel :=
      Nat.lt_of_le_of_lt (Nat.add_le_add (ite_zero_le (s.eof = true) _) (ite_zero_le (s.inb = []) 1)) (hf s.up)
    obtain ⟨s', got, hr, hsp, hlen, hdone⟩ := flatLoop_spec h g (fuelOf s.up) k s.up s.inb (s.outb.drop k) s.eof
      (s.outb.take k) fun hlt => List.drop_eq_nil_iff.2 (by rw [List.length_take] at hlt; omega)
    have hlen' : (s.outb.take k ++ got).length ≤ k :=
      List.length_append ▸ Nat.add_le_of_le_sub' (List.length_take_le k s.outb) hlen
    have hsp' : s.outb.take k ++ got ++ flatRem g rem s' = flatRem g rem s := by
      rw [List.append_assoc, hsp]
      simp only [flatRem]
      rw [← List.append_assoc, ← List.append_assoc, List.take_append_drop]
    cases hd : (s'.eof && s'.outb.isEmpty && s'.inb.isEmpty)
    · refine ⟨s', _, .more, by simp only [flatRd, hr, hd]; rfl,
        { len := hlen'
          split := hsp'
          mono := Nat.le_refl _
          prog := fun hk he _ => ?_ }⟩
      -- a read with room that delivers nothing has run the loop to its end
      rw [List.append_eq_nil_iff] at he
      rw [hdone hfuel (by rw [he.1, he.2]; exact hk)] at hd
      cases hd
    · refine ⟨s', _, .eof, by simp only [flatRd, hr, hd]; rfl, ?_⟩
      obtain ⟨up, inb, outb, eof⟩ := s'
      simp only [Bool.and_eq_true, List.isEmpty_iff] at hd
      obtain ⟨⟨rfl, rfl⟩, rfl⟩ := hd
      exact
        { len := hlen'
          split := hsp'
          eof := fun _ => rfl
          mono := Nat.le_refl _
          sticky := fun _ k' => by
            simp only [flatRd, List.drop_nil, List.take_nil, flatLoop_exit (.inr ⟨rfl, rfl⟩)]; rfl }

theorem flat_drain {α β} (g : α → List β) (u : Up α) (hu : u.ended = false)
    (dest : Nat → Nat) (hd : ∀ i, 0 < dest i) :
    let F := flatRd (upRd α) g (fun s => Up.mu s + (Up.rem s).length + 3)
    drain F dest ((u.rest.flatMap g).length + 1) 0 ⟨u, [], [], false⟩ = u.rest.flatMap g := by
  intro F
  have hF : Lawful F _ _ := flat_lawful (upRd α) g Up.rem Up.mu (up_lawful α) _ fun s => Nat.le_refl _
  exact (drain_spec F _ _ hF dest hd _ 0 _ (by simp [Up.rem, hu])).trans (by simp [Up.rem, hu])

example : drain (flatRd (upRd Nat) (fun x => List.replicate x x) (fun s => Up.mu s + (Up.rem s).length + 3))
    (fun _ => 2) 20 0 ⟨⟨[3, 0, 2], [(1, false), (0, false), (5, true)], false⟩, [], [], false⟩ = [3, 3, 3, 2, 2] := by
  decide

/-- `for sc.Scan(…)` over any lawful reader yields exactly the rows that reader still holds, in order, for every
internal buffer size `c ≥ 1`. -/
theorem scanner_spec {α} (U : Rd α) (rem : U.σ → List α) (mu : U.σ → Nat) (h : Lawful U rem mu) (c : Nat) (hc : 0 < c)
    (fuelOf : U.σ → Nat) (hf : ∀ s, mu s + (rem s).length < fuelOf s) (s : U.σ) :
    scanAll U c fuelOf ((rem s).length + 1) ⟨s, [], false⟩ = rem s := by
  simpa [scanRem] using scanAll_spec h hc (fun s => Nat.lt_of_le_of_lt (Nat.le_add_right _ _) (hf s))
    ((rem s).length + 1) ⟨s, [], false⟩ (by simp [scanRem])

theorem scanner_over_script {α} (u : Up α) (hu : u.ended = false) (c : Nat) (hc : 0 < c) :
    scanAll (upRd α) c (fun s => Up.mu s + (Up.rem s).length + 1) (u.rest.length + 1) ⟨u, [], false⟩ = u.rest := by
  simpa [Up.rem, hu] using scanner_spec (upRd α) Up.rem Up.mu (up_lawful α) c hc _ (fun s => Nat.lt_succ_self _) u

example : scanAll (upRd Nat) 2 (fun s => Up.mu s + (Up.rem s).length + 1) 9
    ⟨⟨[3, 0, 2, 7], [(1, false), (0, false), (5, false), (0, true)], false⟩, [], false⟩ = [3, 0, 2, 7] := by decide

/-- An instance of how lawful readers compose: `Head n ∘ Filter p ∘ Map f`. -/
theorem pipeline_example {α β} (f : α → β) (p : β → Bool) (n : Nat) (u : Up α) (hu : u.ended = false)
    (dest : Nat → Nat) (hd : ∀ i, 0 < dest i) :
    let M := mapRd (upRd α) f
    let fuelOf : Up α → Nat := fun s => Up.mu s + (Up.rem s).length + 1
    let F := filterRd M p fuelOf
    let H := headRd F
    ∃ fuel, drain H dest fuel 0 ⟨⟨u, false⟩, n⟩ = ((u.rest.map f).filter p).take n := by
  intro M fuelOf F H
  have hM := map_lawful (upRd α) f Up.rem Up.mu (up_lawful α)
  have hF := filter_lawful M p _ _ hM fuelOf fun _ => Nat.succ_pos _
  have hH := head_lawful F _ _ hF
  exact ⟨_, (drain_spec H _ _ hH dest hd _ 0 ⟨⟨u, false⟩, n⟩ (Nat.lt_succ_self _)).trans (by simp [Up.rem, hu])⟩

end BS.Reader
