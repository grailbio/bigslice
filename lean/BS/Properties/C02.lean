import BS.Model.Loss
/-!
# C02 — machine loss yields the correct rows or an error, never wrong rows

`loss_safe`: along *every* sequence of task completions and losses — any tasks lost at any moment, lost
outputs recomputed in any order and in another representation — every output that exists is equivalent to
the output of the failure-free reference run, provided (what the evaluator guarantees, C03
`ready_and_needed_only`, and the executor checks by reading only committed outputs, C15) a task is run only
when all its dependencies have outputs, and `f` respects the equivalence.  So when the roots are all
present the result is that of a failure-free run; otherwise the run is not finished (it recomputes, or
reports an error after `maxConsecutiveLost` attempts — C06 `runTask_persistent`).
-/
namespace BS.Loss

section
variable {V : Type} (R : V → V → Prop)

def Rel : List V → List V → Prop
  | [], [] => True
  | v :: vs, w :: ws => R v w ∧ Rel vs ws
  | _, _ => False

def Legal (g : Graph V) (s : St V) : Ev V → Prop
  | .run t v => t < g.n ∧ (∀ d ∈ g.deps t, d < t) ∧
      ∃ ins, (g.deps t).map (fun d => s.get d) = ins.map some ∧ R v (g.f t ins)
  | .lose _ => True

/-- every output present is equivalent to the reference output of its task -/
def Inv (g : Graph V) (s : St V) : Prop :=
  s.length = g.n ∧ ∀ t v, s.get t = some v → ∃ r, (refVals g g.n)[t]? = some r ∧ R v r

theorem length_apply (s : St V) (e : Ev V) : (apply s e).length = s.length := by
  cases e <;> simp [apply]

theorem get_apply_some {s : St V} {e : Ev V} {u : Nat} {w : V} (h : (apply s e).get u = some w) :
    s.get u = some w ∨ e = .run u w := by
  rw [St.get] at h
  cases e with
  | lose ts =>
    left
    rw [apply, List.getElem?_map, List.getElem?_zipIdx] at h
    rw [St.get]
    revert h
    cases s[u]? <;> simp
  | run t v =>
    rw [apply] at h
    by_cases htu : t = u
    · subst htu
      by_cases ht : t < s.length
      · rw [List.getElem?_set_self ht] at h; cases h; exact .inr rfl
      · rw [List.set_eq_of_length_le (Nat.le_of_not_lt ht)] at h; exact .inl h
    · rw [List.getElem?_set_ne htu] at h; exact .inl h

theorem refVals_eq_map (g : Graph V) (m : Nat) :
    refVals g m = (List.range m).map fun t => g.f t ((g.deps t).filterMap fun d => (refVals g t)[d]?) := by
  induction m with
  | zero => rfl
  | succ m ih => rw [List.range_succ, List.map_append, ← ih]; rfl

theorem refVals_at (g : Graph V) (m t : Nat) (ht : t < m) :
    (refVals g m)[t]? = some (g.f t ((g.deps t).filterMap fun d => (refVals g t)[d]?)) := by
  rw [refVals_eq_map, List.getElem?_map, List.getElem?_range ht]; rfl

theorem refVals_prefix (g : Graph V) (k m t : Nat) (ht : t < k) (hkm : k ≤ m) :
    (refVals g k)[t]? = (refVals g m)[t]? := by
  rw [refVals_at g m t (Nat.lt_of_lt_of_le ht hkm), refVals_at g k t ht]

theorem rel_filterMap {α : Type} {get ref : α → Option V} {ds : List α} {ins : List V}
    (hins : ds.map get = ins.map some) (h : ∀ d ∈ ds, ∀ v, get d = some v → ∃ r, ref d = some r ∧ R v r) :
    Rel R ins (ds.filterMap ref) := by
  induction ds generalizing ins with
  | nil =>
    cases ins with
    | nil => trivial
    | cons => cases hins
  | cons d ds ih =>
    cases ins with
    | nil => cases hins
    | cons i ins =>
      obtain ⟨hd, hins⟩ := List.cons.inj hins
      obtain ⟨r, hr, hRr⟩ := h d List.mem_cons_self i hd
      rw [List.filterMap_cons, hr]
      exact ⟨hRr, ih hins fun x hx => h x (List.mem_cons_of_mem d hx)⟩

variable (hcongr : ∀ (g : Graph V) t (xs ys : List V), Rel R xs ys → R (g.f t xs) (g.f t ys))
variable (htrans : ∀ a b c, R a b → R b c → R a c)

include hcongr htrans in
theorem step_inv (g : Graph V) (s : St V) (e : Ev V) (hi : Inv R g s) (hl : Legal R g s e) : Inv R g (apply s e) := by
  obtain ⟨hlen, hv⟩ := hi
  refine ⟨(length_apply s e).trans hlen, fun u w h => ?_⟩
  rcases get_apply_some h with h | rfl
  · exact hv u w h
  · obtain ⟨htn, hdeps, ins, hins, hR⟩ := hl
    -- `f` of the inputs read is equivalent to `f` of the reference outputs of the dependencies
    refine ⟨_, refVals_at g g.n u htn, htrans _ _ _ hR (hcongr g u _ _ ?_)⟩
    refine rel_filterMap R hins fun d hd i hi => ?_
    rw [refVals_prefix g u g.n d (hdeps d hd) (Nat.le_of_lt htn)]
    exact hv d i hi

theorem foldl_inv {σ ε : Type} {f : σ → ε → σ} {P : σ → Prop} {L : σ → ε → Prop}
    (step : ∀ s e, P s → L s e → P (f s e)) (evs : List ε) (s : σ) (hs : P s)
    (hl : ∀ pre e post, evs = pre ++ e :: post → L (pre.foldl f s) e) : P (evs.foldl f s) := by
  induction evs generalizing s with
  | nil => exact hs
  | cons e evs ih =>
    exact ih _ (step s e hs (hl [] e evs rfl)) fun pre e' post h => hl (e :: pre) e' post (congrArg _ h)

include hcongr htrans in
theorem loss_safe (g : Graph V) : ∀ (evs : List (Ev V)) (s : St V), Inv R g s →
    (∀ (pre : List (Ev V)) (e : Ev V) (post : List (Ev V)), evs = pre ++ e :: post → Legal R g (pre.foldl apply s) e) →
    Inv R g (evs.foldl apply s) :=
  foldl_inv (step_inv R hcongr htrans g)

theorem inv_init (g : Graph V) : Inv R g (List.replicate g.n none) := by
  refine ⟨List.length_replicate, fun t v h => ?_⟩
  rw [St.get, List.getElem?_replicate] at h
  split at h <;> cases h

end

/-- non-vacuity: a three-task graph (two sources, one consumer summing them), the first source lost after the
consumer ran, recomputed, the consumer lost and recomputed -/
def demoG : Graph Nat := ⟨3, fun t => if t = 2 then [0, 1] else [], fun t ins => if t = 2 then ins.sum else t + 5⟩

example : (([Ev.run 0 5, .run 1 6, .run 2 11, .lose [0, 2], .run 0 5, .run 2 11] : List (Ev Nat)).foldl apply
    (List.replicate 3 none)) = [some 5, some 6, some 11] := by decide

example : refVals demoG 3 = [5, 6, 11] := by decide

end BS.Loss
