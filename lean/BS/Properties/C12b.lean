import BS.Model.Discard
/-!
# C12 (discard protocol) — a discard racing with an evaluation never leaves the driver believing in output that is gone
-/
namespace BS.Discard

theorem mem_allStates (s : S) : s ∈ allStates := by
  obtain ⟨d, w, pc, ev⟩ := s
  simp only [allStates, List.mem_flatMap, List.mem_map]
  exact ⟨d, by cases d <;> decide, w, by cases w <;> decide, pc, List.mem_finRange pc, ev, List.mem_finRange ev, rfl⟩

/-- `Inv` is inductive on all 48 states (`allStates`): the kernel checks each. -/
theorem inv_step_all : allStates.all (fun s => !Inv s || (next true s).all Inv) = true := by decide +kernel

theorem inv_step {s t : S} (h : Inv s = true) (ht : t ∈ next true s) : Inv t = true := by
  have := List.all_eq_true.mp inv_step_all s (mem_allStates s)
  simp only [h, Bool.not_true, Bool.false_or] at this
  exact List.all_eq_true.mp this t ht

/-- `Reach true`: with the code's order (the worker is told to discard before the task is published as LOST). -/
theorem discard_safe (s : S) (h : Reach true s) : Safe s = true := by
  have : Inv s = true := by
    induction h with
    | init => decide
    | step _ ht ih => exact inv_step ih ht
  simp only [Inv, Bool.and_eq_true] at this
  exact this.1.1.1

/-- the other order (LOST published first) lets an evaluator slip in and the driver believe in deleted output: the trace of
defect D19 (known_findings.json: fixed) -/
theorem lost_first_unsafe : ∃ s, Reach false s ∧ Safe s = false := by
  refine ⟨⟨.ok, false, 3, 0⟩, ?_, by decide⟩
  have h1 : Reach false ⟨.running, true, 1, 0⟩ := .step .init (by decide)
  have h2 : Reach false ⟨.lost, true, 2, 0⟩ := .step h1 (by decide)
  have h3 : Reach false ⟨.running, true, 2, 1⟩ := .step h2 (by decide)
  have h4 : Reach false ⟨.ok, true, 2, 0⟩ := .step h3 (by decide)
  exact .step h4 (by decide)

/-- progress: after a discard, an evaluator recomputes the output -/
example : Reach true ⟨.ok, true, 3, 0⟩ := by
  have h1 : Reach true ⟨.running, true, 1, 0⟩ := .step .init (by decide)
  have h2 : Reach true ⟨.running, false, 2, 0⟩ := .step h1 (by decide)
  have h3 : Reach true ⟨.lost, false, 3, 0⟩ := .step h2 (by decide)
  have h4 : Reach true ⟨.running, false, 3, 1⟩ := .step h3 (by decide)
  exact .step h4 (by decide)

end BS.Discard
