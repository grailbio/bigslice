import BS.Model.Part
import BS.Proofs.Frame
/-!
# C05 — keyed redistribution puts each key in one shard, chosen by the key alone
-/
namespace BS.Part
open BS.Hash

theorem part_lt (n : Nat) (key : List KVal) (h : 0 < n) : part n key < n := Nat.mod_lt _ h

/-- `+0.0` and `-0.0` (equal keys in Go) have the same hashed representation. -/
theorem f64_zero_sign_irrelevant : f64bitsQuarter true 0 = f64bitsQuarter false 0 := rfl
theorem f32_zero_sign_irrelevant : f32bitsQuarter true 0 = f32bitsQuarter false 0 := rfl

variable {ρ : Type}

/-- partition `p` of a producer's rows: what consumer shard `p` reads from it
(exec/local.go:226-239, exec/bigmachine.go:973-1018) -/
def splitByPart (key : ρ → List KVal) (n : Nat) (rows : List ρ) (p : Nat) : List ρ :=
  rows.filter fun r => part n (key r) == p

theorem mem_split_iff (key : ρ → List KVal) (n : Nat) (rows : List ρ) (p : Nat) (r : ρ) :
    r ∈ splitByPart key n rows p ↔ r ∈ rows ∧ part n (key r) = p := by
  simp [splitByPart]

/-- whatever the producer, the position in a frame or the batch: the shard is a function of the key and the shard count -/
theorem equal_keys_same_shard (key : ρ → List KVal) (n : Nat) (rows₁ rows₂ : List ρ) (p q : Nat) (r s : ρ)
    (hr : r ∈ splitByPart key n rows₁ p) (hs : s ∈ splitByPart key n rows₂ q) (hk : key r = key s) : p = q := by
  rw [mem_split_iff] at hr hs
  rw [← hr.2, ← hs.2, hk]

theorem buckets_below_perm (g : ρ → Nat) (rows : List ρ) (m : Nat) :
    ((List.range m).flatMap fun p => rows.filter (g · == p)).Perm (rows.filter (g · < m)) := by
  induction m with
  | zero => exact .of_eq (List.filter_eq_nil_iff.mpr fun x _ h => Nat.not_lt_zero _ (of_decide_eq_true h)).symm
  | succ m ih =>
    rw [List.range_succ, List.flatMap_append, List.flatMap_singleton]
    -- `List.filter_append_perm` splits the rows below `m + 1` into those below `m` and the others, which are bucket `m`
    refine (ih.append_right _).trans (.trans (.of_eq ?_) (List.filter_append_perm (g · < m) _))
    rw [List.filter_filter, List.filter_filter]
    congr 1 <;> refine List.filter_congr fun x _ => ?_
    · exact (Bool.and_eq_left_iff_imp.mpr fun h => decide_eq_true (Nat.lt_succ_of_lt (of_decide_eq_true h))).symm
    · refine Bool.eq_iff_iff.mpr ?_
      simp only [beq_iff_eq, Bool.and_eq_true, Bool.not_eq_true', decide_eq_false_iff_not, decide_eq_true_eq]
      exact ⟨fun h => h ▸ ⟨Nat.lt_irrefl _, Nat.lt_succ_self _⟩,
        fun h => Nat.le_antisymm (Nat.le_of_lt_succ h.2) (Nat.le_of_not_lt h.1)⟩

/-- no row lost, duplicated or invented by a shuffle -/
theorem shuffle_partitions_perm (key : ρ → List KVal) (n : Nat) (hn : 0 < n) (rows : List ρ) :
    ((List.range n).flatMap (splitByPart key n rows)).Perm rows :=
  (buckets_below_perm (fun r => part n (key r)) rows n).trans <|
    .of_eq (List.filter_eq_self.mpr fun r _ => decide_eq_true (part_lt n (key r) hn))

/-- keyed aggregations emit each key once, if every shard's output has unique keys (C09/C10) and every row sits in the
shard of its key -/
theorem aggregate_unique_keys (key : ρ → List KVal) (n : Nat) (out : Nat → List ρ)
    (hloc : ∀ p r, r ∈ out p → part n (key r) = p)
    (huniq : ∀ p, ((out p).map key).Nodup) :
    ∀ m, (((List.range m).flatMap out).map key).Nodup := by
  intro m
  rw [List.Nodup, List.pairwise_map, List.pairwise_flatMap]
  refine ⟨fun p _ => List.pairwise_map.mp (huniq p), List.pairwise_lt_range.imp fun hpq x hx y hy hk => ?_⟩
  -- rows with the same key would sit in the same shard
  rw [← hloc _ x hx, ← hloc _ y hy, hk] at hpq
  exact Nat.lt_irrefl _ hpq

open BS.Frame in
/-- The hash (hence the shard) of row `i` of a frame depends only on that row's key
columns, not on the view's offset or the store it lives in. -/
theorem hash_position_independent (enc : Int → KVal) (seed : UInt32)
    (m₁ m₂ : Mem) (f g : Frame) (i j : Nat) (hi : i < f.len) (hj : j < g.len) (hp : f.pfx = g.pfx)
    (hrow : (view m₁ f).getD i [] = (view m₂ g).getD j []) :
    hashRow seed (((rowAt m₁ f.sid (idx f.off i)).take f.pfx).map enc)
      = hashRow seed (((rowAt m₂ g.sid (idx g.off j)).take g.pfx).map enc) := by
  rw [← view_getD m₁ f i hi, ← view_getD m₂ g j hj, hrow, hp]

example : part 7 [.w64 42, .bytes [104, 105]] < 7 := part_lt _ _ (by decide)

end BS.Part
