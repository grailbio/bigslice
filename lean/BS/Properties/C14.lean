import BS.Model.Cluster
/-!
# C14 — the cluster manager never oversubscribes machines nor leaks capacity
-/
namespace BS.Cluster

/-- the first position of the two queues (in heap order) whose request fits, provided no machine before it is full -/
theorem schedule_spec (rs : List Req) (ms : List Mach) (r : Req) (m : Mach) :
    schedule rs ms = some (r, m) ↔
      ∃ k, rs[k]? = some r ∧ ms[k]? = some m ∧ r.procs ≤ m.free ∧ m.free ≠ 0 ∧
        ∀ i : Nat, i < k → ∃ (r' : Req) (m' : Mach), rs[i]? = some r' ∧ ms[i]? = some m' ∧ m'.free ≠ 0 ∧ ¬ r'.procs ≤ m'.free := by
  induction rs generalizing ms with
  | nil => simp only [schedule, List.getElem?_nil, reduceCtorEq, false_and, exists_false]
  | cons r' rs ih =>
    cases ms with
    | nil => simp only [schedule, List.getElem?_nil, reduceCtorEq, false_and, and_false, exists_false]
    | cons m' ms =>
      rw [schedule]
      constructor
      · intro h
        split at h
        · cases h
        next hfree' =>
          split at h
          next hfit' =>
            cases h
            exact ⟨0, rfl, rfl, hfit', hfree', nofun⟩
          next hfit' =>
            obtain ⟨k, hr, hm, hfit, hfree, hk⟩ := (ih ms).mp h
            exact ⟨k + 1, hr, hm, hfit, hfree, Nat.forall_lt_succ_left.mpr ⟨⟨r', m', rfl, rfl, hfree', hfit'⟩, hk⟩⟩
      · rintro ⟨k, hr, hm, hfit, hfree, hk⟩
        cases k with
        | zero => cases hr; cases hm; rw [if_neg hfree, if_pos hfit]
        | succ k =>
          obtain ⟨⟨_, _, ⟨⟩, ⟨⟩, hfree', hfit'⟩, hk⟩ := Nat.forall_lt_succ_left.mp hk
          rw [if_neg hfree', if_neg hfit']
          exact (ih ms).mpr ⟨k, hr, hm, hfit, hfree, hk⟩

theorem schedule_fits {rs : List Req} {ms : List Mach} {r : Req} {m : Mach}
    (h : schedule rs ms = some (r, m)) : r ∈ rs ∧ m ∈ ms ∧ r.procs ≤ m.free ∧ m.free ≠ 0 := by
  obtain ⟨k, hr, hm, hfit, hfree, -⟩ := (schedule_spec rs ms r m).mp h
  exact ⟨List.mem_of_getElem? hr, List.mem_of_getElem? hm, hfit, hfree⟩

/-- The head of the request queue is granted whenever it fits on the head machine.  (In `step` the queues are sorted —
`reqLess`: highest priority, `machLess`: most free procs; the theorems hold for any order.) -/
theorem schedule_head (r : Req) (rs : List Req) (m : Mach) (ms : List Mach)
    (hfree : m.free ≠ 0) (hfit : r.procs ≤ m.free) : schedule (r :: rs) (m :: ms) = some (r, m) :=
  (if_neg hfree).trans (if_pos hfit)

theorem insertBy_perm {α} (lt : α → α → Bool) (x : α) (l : List α) : (insertBy lt x l).Perm (x :: l) := by
  fun_induction insertBy lt x l with
  | case1 | case3 => exact .refl _
  | case2 y ys _ ih => exact (ih.cons y).trans (.swap x y ys)

theorem sortBy_perm {α} (lt : α → α → Bool) (l : List α) : (sortBy lt l).Perm l := by
  fun_induction sortBy lt l with
  | case1 => exact .nil
  | case2 x xs ih => exact (insertBy_perm lt x _).trans (ih.cons x)

/-- Machines on probation or stopped receive no new work. -/
theorem grant_only_ok (s : MState) (r : Req) (m : Mach)
    (h : schedule (sortBy reqLess s.queue) (sortBy machLess (okMachs s)) = some (r, m)) :
    (m, Health.ok) ∈ s.machs ∧ r ∈ s.queue ∧ r.procs ≤ m.free := by
  obtain ⟨hr, hm, hfit, -⟩ := schedule_fits h
  rw [(sortBy_perm _ _).mem_iff] at hr hm
  exact ⟨by simpa [okMachs] using hm, hr, hfit⟩

theorem inj_of_nodup_map {α β} {f : α → β} {l : List α} (h : (l.map f).Nodup) {a b : α}
    (ha : a ∈ l) (hb : b ∈ l) (e : f a = f b) : a = b :=
  have hp := List.pairwise_map.mp h
  List.Pairwise.forall_of_forall_of_flip (R := fun a b => f a = f b → a = b) (fun _ _ _ => rfl)
    (hp.imp fun hne e => absurd e hne) (hp.imp fun hne e => absurd e.symm hne) ha hb e

theorem outstanding_cons (g : List (Nat × Nat)) (a b mid : Nat) :
    outstanding ((a, b) :: g) mid = outstanding g mid + if a = mid then b else 0 := by
  simp only [outstanding, List.filter_cons, beq_iff_eq]
  split
  · exact Nat.add_comm ..
  · rfl

theorem removeFirst_perm {α} [DecidableEq α] {x : α} {l : List α} (h : x ∈ l) :
    l.Perm (x :: removeFirst x l) := by
  fun_induction removeFirst x l with
  | case1 => cases h
  | case2 ys => exact .refl _
  | case3 y ys hne ih => exact ((ih ((List.mem_cons.mp h).resolve_left hne)).cons y).trans (.swap x y _)

theorem outstanding_removeFirst {g : List (Nat × Nat)} {a b : Nat} (mid : Nat) (h : (a, b) ∈ g) :
    outstanding g mid = outstanding (removeFirst (a, b) g) mid + if a = mid then b else 0 := by
  rw [← outstanding_cons]
  exact (((removeFirst_perm h).filter _).map _).sum_nat

/-- The form every arm of `step` that touches a machine has: machine `mid` gets `used := u p` and some health `hl p`, the
queue and the grants are replaced.  `hu`: `u p` is what `mid` has outstanding in the new grants, within its capacity;
`hg`: for the other machines the new grants count as the old ones did. -/
theorem inv_updMach {s : MState} (h : Inv s) {mid : Nat} {u : Mach × Health → Nat}
    {hl : Mach × Health → Health} {q : List Req} {g' : List (Nat × Nat)}
    (hu : ∀ p ∈ s.machs, p.1.id = mid → u p = outstanding g' mid ∧ u p ≤ p.1.max)
    (hg : ∀ i, mid ≠ i → outstanding g' i = outstanding s.grants i) :
    Inv ⟨updMach s.machs mid fun p => (⟨p.1.id, p.1.max, u p⟩, hl p), q, g'⟩ := by
  refine ⟨fun p' hp' => ?_, ?_⟩
  · obtain ⟨p, hp, rfl⟩ := List.mem_map.mp hp'
    split
    next e => exact e ▸ hu p hp e
    next e => rw [hg _ (Ne.symm e)]; exact h.1 p hp
  · simpa [updMach, Function.comp_def, apply_ite] using h.2

theorem step_inv (s : MState) (e : Event) (h : Inv s) : Inv (step s e) := by
  -- the arms of `step`: offer, cancel, a grant that finds nothing (3) or books `r` on `m` (4), a done for a grant
  -- that is outstanding (5) or not (6), stop, probationTimeout
  fun_cases step s e with
  | case1 | case2 | case3 | case6 => exact h
  | case4 r m hs =>
    obtain ⟨hm, -, hfit⟩ := grant_only_ok s r m hs
    refine inv_updMach h (fun p hp hid => ?_) fun i hi => ?_
    · -- ids are unique: the machine booked is `m` itself
      obtain rfl : p.1 = m := congrArg Prod.fst (inj_of_nodup_map h.2 hp hm hid)
      obtain ⟨hacc, hcap⟩ := h.1 p hp
      rw [outstanding_cons, if_pos rfl, ← hacc]
      exact ⟨rfl, Nat.add_le_of_le_sub' hcap hfit⟩
    · rw [outstanding_cons, if_neg hi, Nat.add_zero]
  | case5 mid procs te ok hin =>
    refine inv_updMach h (fun p hp hid => ?_) fun i hi => ?_
    · obtain ⟨hacc, hcap⟩ := h.1 p hp
      rw [hid, outstanding_removeFirst _ hin, if_pos rfl] at hacc
      exact ⟨Nat.sub_eq_of_eq_add hacc, Nat.le_trans (Nat.sub_le ..) hcap⟩
    · rw [outstanding_removeFirst i hin, if_neg hi, Nat.add_zero]
  | case7 mid | case8 mid =>
    -- `u := (·.1.used)`: Lean finds it because `p.1` is `⟨p.1.id, p.1.max, p.1.used⟩` by eta
    exact inv_updMach h (fun p hp e => e ▸ h.1 p hp) fun _ _ => rfl

/-- no machine is ever assigned more procs than its capacity -/
theorem capacity_invariant (es : List Event) (s : MState) (h : Inv s) : Inv (es.foldl step s) :=
  List.foldlRecOn es step h fun s hs e _ => step_inv s e hs

/-- No capacity leaks once every grant is handed back.  That each `done` returns the amount it was granted is read off
`(*bigmachineExecutor).Run` by the T2 ties `procs_returned_once` and `procs_same_amount` (tools/props/c14.py). -/
theorem idle_means_zero (es : List Event) (s : MState) (h : Inv s) (hidle : (es.foldl step s).grants = []) :
    ∀ p ∈ (es.foldl step s).machs, p.1.used = 0 := by
  intro p hp
  rw [((capacity_invariant es s h).1 p hp).1, hidle]
  rfl

/-- An exclusive request (clamped to the whole machine) is granted only on an idle machine. -/
theorem exclusive_alone (r : Req) (m : Mach) (hcap : m.used ≤ m.max) (hex : r.procs = m.max)
    (hpos : 0 < m.max) (hfit : r.procs ≤ m.free) : m.used = 0 :=
  Nat.eq_zero_of_not_pos fun h => Nat.not_lt.mpr (hex ▸ hfit : m.max ≤ m.free) (Nat.sub_lt hpos h)

theorem clamp_le (p : Nat) (ex : Bool) (mp : Nat) : clampProcs p ex mp ≤ mp := by
  unfold clampProcs
  split
  · exact Nat.le_refl mp
  next h => exact Nat.le_of_not_lt fun hlt => h (.inr hlt)

theorem clamp_exclusive (p mp : Nat) : clampProcs p true mp = mp := if_pos (.inl rfl)

theorem machprocs_pos (mx n d : Nat) : 1 ≤ machprocs mx n d := by
  dsimp only [machprocs]
  split
  · exact Nat.le_refl 1
  next h => exact Nat.le_of_not_lt h

/-- no more machines are started than demand and the parallelism limit justify -/
theorem start_bounded (hv pending need maxp mp : Nat) (hmp : 0 < mp) :
    let n := startDecision hv pending need maxp mp
    n ≤ 10 ∧ hv + pending + n * mp < min need maxp + mp ∨ n = 0 := by
  unfold startDecision
  split
  next hc =>
    refine .inl ⟨Nat.min_le_right .., Nat.add_lt_of_lt_sub' ?_⟩
    rw [Nat.sub_add_comm (Nat.le_of_lt (Nat.lt_min.mpr hc)), ← Nat.sub_sub]
    -- `n * mp ≤ ⌈d / mp⌉ * mp ≤ d + mp - 1`, where `d = min need maxp - hv - pending`
    exact Nat.lt_of_le_of_lt (Nat.le_trans (Nat.mul_le_mul_right mp (Nat.min_le_left ..)) (Nat.div_mul_le_self ..))
      (Nat.sub_lt (Nat.add_pos_right _ hmp) Nat.one_pos)
  · exact .inr rfl

/-- non-vacuity: the request of highest priority goes to machine 0, the only OK machine with room (2 is on probation) -/
def exS : MState :=
  { machs := [(⟨0, 4, 1⟩, .ok), (⟨1, 4, 4⟩, .ok), (⟨2, 4, 0⟩, .probation)],
    queue := [⟨1, 4⟩, ⟨1, 2⟩, ⟨0, 3⟩], grants := [(0, 1), (1, 2), (1, 2)] }

example : schedule (sortBy reqLess exS.queue) (sortBy machLess (okMachs exS)) = some (⟨0, 3⟩, ⟨0, 4, 1⟩) := by
  decide +kernel
example : (step exS .grant).machs.head? = some (⟨0, 4, 4⟩, .ok) := by decide +kernel

end BS.Cluster
