import BS.Model.History
import BS.Properties.C04
/-!
# C12 — results can be reused, rescanned and discarded without changing their rows

`history_refines`: along every history of runs (each under its own valid strategy), recomputations
of earlier results under other strategies (what discards and losses cause) and scans, every result —
and hence everything a scan or a consuming program observes — agrees with the value fixed by the
first evaluation in the reference (`Sim`).
-/
namespace BS.History
open BS.Prog BS.Sem BS.Exec

theorem consumer_congr (σ₁ σ₂ : Strategy) (h₁ : σ₁.Valid) (h₂ : σ₂.Valid) (q : Program) {res₁ res₂ : List Shards}
    (hr : All2 Sim res₁ res₂) (hwf : wfNodes res₂ q.nodes [] = true) :
    Sim (exec σ₁ q res₁).2 (exec σ₂ q res₂).2 :=
  (exec_congr σ₁ σ₂ h₁ h₂ q hr hwf).2

def EntrySim (a b : Entry) : Prop := a.prog = b.prog ∧ Sim a.val b.val

def opValid : HOp → Prop
  | .run _ σ => σ.Valid
  | .recompute _ σ => σ.Valid
  | .scan _ => True

theorem vals_sim {s t : List Entry} (h : All2 EntrySim s t) : All2 Sim (s.map (·.val)) (t.map (·.val)) :=
  h.map fun e => e.2

/-- `s` is the engine's history, `t` the reference's.  `defd`: every entry of the reference is the reference evaluation of its program on the values that preceded it -/
structure Inv (s t : List Entry) : Prop where
  sim : All2 EntrySim s t
  defd : ∀ k e, t[k]? = some e → e.val = (eval e.prog ((t.take k).map (·.val))).2 ∧
    wfNodes ((t.take k).map (·.val)) e.prog.nodes [] = true

theorem step_inv {s t : List Entry} (hi : Inv s t) (op : HOp) (hv : opValid op)
    (hwf : opWf t op = true) :
    Inv (step s op).1 (specStep t op).1 ∧
      (match (step s op).2, (specStep t op).2 with
        | some a, some b => Sim a b
        | none, none => True
        | _, _ => False) := by
  cases op with
  | run p σ =>
    have hs := (exec_refines_sem σ hv p (vals_sim hi.sim) hwf).2
    refine ⟨⟨hi.sim.append (.cons ⟨rfl, hs⟩ .nil), fun k e hk => ?_⟩, trivial⟩
    dsimp only [specStep] at hk ⊢
    -- the earlier entries keep what preceded them; the new one is defined from all of `t`
    rcases Nat.lt_trichotomy k t.length with hlt | rfl | hgt
    · rw [List.getElem?_append_left hlt] at hk
      rw [List.take_append_of_le_length (Nat.le_of_lt hlt)]
      exact hi.defd k e hk
    · rw [List.getElem?_concat_length] at hk
      cases hk
      rw [List.take_left' rfl]
      exact ⟨rfl, hwf⟩
    · rw [List.getElem?_eq_none (by rw [List.length_append]; exact hgt)] at hk
      cases hk
  | recompute k σ =>
    dsimp only [step, specStep]
    have h := hi.sim.getElem? k
    generalize s[k]? = a, hb : t[k]? = b at h ⊢
    cases h with
    | none => exact ⟨hi, trivial⟩
    | @some a b hab =>
      have hd := hi.defd k b hb
      refine ⟨⟨hi.sim.set_left hb ⟨hab.1, ?_⟩, hi.defd⟩, trivial⟩
      -- run again on the current values of the earlier results, it agrees with what the reference fixed
      rw [hd.1, hab.1]
      exact (exec_refines_sem σ hv _ (vals_sim (hi.sim.take k)) hd.2).2
  | scan k =>
    refine ⟨hi, ?_⟩
    dsimp only [step, specStep]
    have h := hi.sim.getElem? k
    generalize s[k]? = a, t[k]? = b at h ⊢
    cases h with
    | none => trivial
    | some h => exact h.2

def ObsSim : List (Option Shards) → List (Option Shards) → Prop
  | [], [] => True
  | some a :: as, some b :: bs => Sim a b ∧ ObsSim as bs
  | none :: as, none :: bs => ObsSim as bs
  | _, _ => False

theorem history_refines : ∀ (ops : List HOp) {s t : List Entry}, Inv s t → (∀ op ∈ ops, opValid op) →
    wfOps t ops = true →
    Inv (runHist step s ops).1 (runHist specStep t ops).1 ∧ ObsSim (runHist step s ops).2 (runHist specStep t ops).2 := by
  intro ops
  induction ops with
  | nil => exact fun hi _ _ => ⟨hi, trivial⟩
  | cons op ops ih =>
    intro s t hi hv hwf
    have ⟨hw1, hw2⟩ := Bool.and_eq_true_iff.mp hwf
    have ⟨hv1, hv2⟩ := List.forall_mem_cons.mp hv
    have h1 := step_inv hi op hv1 hw1
    have h2 := ih h1.1 hv2 hw2
    refine ⟨h2.1, ?_⟩
    have h3 := h1.2
    dsimp only [runHist]
    generalize (step s op).2 = x, (specStep t op).2 = y at h3
    cases x <;> cases y
    case none.none => exact h2.2
    case some.some => exact ⟨h3, h2.2⟩
    all_goals exact h3.elim

theorem inv_nil : Inv [] [] := ⟨.nil, fun _ _ h => nomatch h⟩

/-- recomputing never changes the reference: its results are fixed by the runs alone -/
theorem spec_ignores_recompute (t : List Entry) (k : Nat) (σ : Strategy) : (specStep t (.recompute k σ)).1 = t := rfl

end BS.History
