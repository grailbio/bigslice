import BS.Model.Metrics
import BS.Proofs.ListSet
/-!
# C20 — user metrics are merged additively and survive transport unchanged

`incr` and `merge` are `instance s` followed by an addition at the index it returns; `incr_val` and `merge_val` say what that
does to every scope at once.  Transport: `gob_roundtrip`, `gob_frame` (decoding creates the fresh scope `m.ref.length`).
-/
namespace BS.Metrics

theorem getD_addAt {l : List Int} {i k : Nat} {d : Int} (hi : i < l.length) :
    (addAt l i d).getD k 0 = l.getD k 0 + if k = i then d else 0 := by
  rw [addAt, getD_set hi]
  by_cases h : k = i
  · rw [h, if_pos rfl, if_pos rfl]
  · rw [if_neg (Ne.symm h), if_neg h, Int.add_zero]

theorem val_addAt {m : M} {i t : Nat} {d : Int} (hi : i < m.inst.length) :
    ({ m with inst := addAt m.inst i d } : M).val t = m.val t + if m.refOf t = some i then d else 0 := by
  cases h : m.refOf t <;> simp only [M.refOf] at h <;> simp only [M.val, M.refOf, h]
  · rfl
  · simp only [getD_addAt hi, Option.some.injEq]

/-- an addition to scope `s` is not seen at scope `t` -/
abbrev Apart (m : M) (s t : Nat) : Prop := t ≠ s ∧ (m.refOf t ≠ m.refOf s ∨ m.refOf s = none)

theorem not_apart_self {m : M} {s : Nat} : ¬Apart m s s := fun ha => ha.1 rfl

section
variable {m : M} {s : Nat}

theorem instance_spec (hw : m.WF) (hs : s < m.ref.length) :
    (m.instance s).1.WF ∧ (m.instance s).1.ref.length = m.ref.length ∧
    ∀ t, (m.instance s).1.val t = m.val t ∧
      ((m.instance s).1.refOf t = some (m.instance s).2 ↔ ¬Apart m s t) := by
  -- the slot of `s` holds an instance `i` (`case1`), or is nil and a fresh instance is appended (`case2`)
  fun_cases M.instance m s with
  | case1 i h =>
    refine ⟨hw, rfl, fun t => ⟨rfl, fun e ha => ?_, fun hna => ?_⟩⟩
    · exact ha.2.elim (fun hne => hne (e.trans h.symm)) (fun hn => nomatch h.symm.trans hn)
    · exact Decidable.by_contra fun hne => hna ⟨fun e => hne (e ▸ h), .inl (h ▸ hne)⟩
  | case2 h =>
    have hr (t) : M.refOf ⟨m.inst ++ [0], m.ref.set s (some m.inst.length)⟩ t =
        if s = t then some m.inst.length else m.refOf t := getD_set hs ..
    refine ⟨fun t k hk => ?_, List.length_set, fun t => ?_⟩
    · rw [hr] at hk
      rw [List.length_append]
      split at hk
      · cases hk; exact Nat.lt_succ_self _
      · exact Nat.lt_succ_of_lt (hw t k hk)
    · simp only [M.val, hr]
      by_cases hst : s = t
      · subst hst; simp [h]  -- the created instance starts at 0, which is what the nil slot read
      · simp only [hst, if_false]
        -- the fresh index is beyond every reference of the well-formed `m`
        refine ⟨?_, fun e => absurd (hw t _ e) (Nat.lt_irrefl _), fun hna => absurd ⟨Ne.symm hst, .inr h⟩ hna⟩
        cases hk : m.refOf t with
        | none => rfl
        | some k => exact getD_append_left (hw t k hk) ..

theorem incr_val (hw : m.WF) (hs : s < m.ref.length) (n : Int) (t : Nat) :
    (m.incr s n).val t = m.val t + if Apart m s t then 0 else n := by
  obtain ⟨hw', -, h⟩ := instance_spec hw hs
  rw [← (h t).1]
  exact (val_addAt (hw' s _ ((h s).2.2 not_apart_self))).trans (by simp only [(h t).2, ite_not])

theorem merge_eq (u : Nat) :
    m.merge s u = if m.refOf u = none then m else m.incr s (m.val u) := by
  unfold M.merge M.val
  cases m.refOf u <;> rfl

theorem merge_inv (hw : m.WF) (hs : s < m.ref.length) (u : Nat) :
    (m.merge s u).WF ∧ (m.merge s u).ref.length = m.ref.length ∧
    ∀ t, Apart m s t → Apart (m.merge s u) s t := by
  obtain ⟨hw', hl, h⟩ := instance_spec hw hs
  unfold M.merge
  cases m.refOf u with
  | none => exact ⟨hw, rfl, fun _ => id⟩
  | some j =>
    exact ⟨fun t k hk => Nat.lt_of_lt_of_eq (hw' t k hk) List.length_set.symm, hl,
      fun t ha => ⟨ha.1, .inl fun e => (h t).2.1 (e.trans ((h s).2.2 not_apart_self)) ha⟩⟩

theorem merge_val (hw : m.WF) (hs : s < m.ref.length) (u t : Nat) :
    (m.merge s u).val t = m.val t + if Apart m s t then 0 else m.val u := by
  rw [merge_eq]; split
  · next h => simp only [M.val, h, ite_self, Int.add_zero]
  · exact incr_val hw hs _ t

end

theorem merge_wf (m : M) (s u : Nat) (hw : m.WF) (hs : s < m.ref.length) : (m.merge s u).WF :=
  (merge_inv hw hs u).1

/-- also when `s` and `u` share an instance -/
theorem merge_adds (m : M) (s u : Nat) (hw : m.WF) (hs : s < m.ref.length) :
    (m.merge s u).val s = m.val s + m.val u := by
  rw [merge_val hw hs, if_neg not_apart_self]

theorem merge_frame (m : M) (s u t : Nat) (hw : m.WF) (hs : s < m.ref.length) (hts : t ≠ s)
    (hne : m.refOf t ≠ m.refOf s ∨ m.refOf s = none) :
    (m.merge s u).val t = m.val t := by
  rw [merge_val hw hs, if_pos ⟨hts, hne⟩, Int.add_zero]

theorem incr_adds (m : M) (s : Nat) (n : Int) (hw : m.WF) (hs : s < m.ref.length) :
    (m.incr s n).val s = m.val s + n := by
  rw [incr_val hw hs, if_neg not_apart_self]

/-- `Result.Scope` (exec/session.go:426-434): merging the scopes of the result's tasks into the result's scope reports the
sum of the tasks' values.  (`iterTasks` visits each task once; the statement does not ask for that: a task listed twice is
added twice.) -/
theorem result_scope_is_sum (ts : List Nat) (m : M) (r : Nat) (hw : m.WF) (hr : r < m.ref.length)
    (hnot : r ∉ ts) (hsh : ∀ t ∈ ts, m.refOf t ≠ m.refOf r ∨ m.refOf r = none) :
    (ts.foldl (fun m t => m.merge r t) m).val r = m.val r + (ts.map m.val).sum := by
  induction ts generalizing m with
  | nil => simp
  | cons t ts ih =>
    have hap (t') (h' : t' ∈ ts) : Apart m r t' := ⟨fun e => hnot (e ▸ .tail _ h'), hsh t' (.tail _ h')⟩
    obtain ⟨hw', hl, hA⟩ := merge_inv hw hr t
    have hfr : ∀ t' ∈ ts, (m.merge r t).val t' = m.val t' := fun t' h' =>
      merge_frame m r t t' hw hr (hap t' h').1 (hap t' h').2
    rw [List.foldl_cons, ih _ hw' (hl ▸ hr) (fun h => hnot (.tail _ h)) fun t' h' => (hA t' (hap t' h')).2,
      merge_adds m r t hw hr, List.map_congr_left hfr, List.map_cons, List.sum_cons, Int.add_assoc]

theorem reset_reports_other (m : M) (s u : Nat) (hs : s < m.ref.length) :
    (m.reset s u).val s = m.val u := by
  simp only [M.reset, M.val, M.refOf, getD_set hs, if_true]

theorem resetNil_zero (m : M) (s : Nat) (hs : s < m.ref.length) : (m.resetNil s).val s = 0 := by
  simp only [M.resetNil, M.val, M.refOf, getD_set hs, if_true]

theorem gob_roundtrip (m : M) (s : Nat) (hw : m.WF) :
    (m.gob s).val m.ref.length = m.val s := by
  unfold M.gob M.val
  cases m.refOf s <;>
    simp only [M.refOf, List.getD_eq_getElem?_getD, List.getElem?_concat_length, Option.getD_some]

theorem gob_frame (m : M) (s t : Nat) (hw : m.WF) (ht : t < m.ref.length) :
    (m.gob s).val t = m.val t := by
  unfold M.gob M.val
  cases m.refOf s <;> simp only [M.refOf, getD_append_left ht]
  cases hk : m.ref.getD t none with
  | none => rfl
  | some k => exact getD_append_left (hw t k hk) ..

/-- Non-vacuity: two scopes sharing an instance after a reset. -/
def exM : M := { inst := [5, 7], ref := [some 0, some 1, some 1, none] }
example : exM.WF := fun s i h => by
  rcases s with _ | _ | _ | _ | s <;> cases h <;> decide
example : (exM.merge 1 2).val 1 = 14 := by decide
example : (exM.merge 3 0).val 3 = 5 := by decide

end BS.Metrics
