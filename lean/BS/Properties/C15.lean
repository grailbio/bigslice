import BS.Model.Store
/-!
# C15 — task stores are commit-atomic; remote reads resume without gaps or repeats

Store: nothing is visible before a successful commit (`commit_err_or_ok`).  Retrying reader: `RInv` is kept by every call and a
call's answer is `Exact`; `read_exact` and `drain_exact` follow the functions' own recursion.
-/
namespace BS.Store

theorem create_invisible (s : St) (k : Key) : (create s k).vis = s.vis := rfl
theorem write_invisible (s : St) (i : Nat) (b : List UInt8) : (write s i b).vis = s.vis := rfl
theorem discardW_invisible (s : St) (i : Nat) : (discardW s i).vis = s.vis := rfl

theorem commit_err_or_ok (s : St) (i n : Nat) (p : Bool) :
    ((commit s i n p).2 = .err ∧ (commit s i n p).1.vis = s.vis) ∨ (p = true ∧ (commit s i n p).2 = .ok) := by
  -- `case3`: the writer exists, is alive and `p` holds; every other branch reports `.err` and leaves `vis` alone
  fun_cases commit s i n p with
  | case3 _ _ _ _ hp => exact .inr ⟨hp, rfl⟩
  | _ => exact .inl ⟨rfl, rfl⟩

/-- data become visible only through a successful commit (`create`, `write`, `discardW` never change `vis`) -/
theorem visible_only_after_commit (s : St) (i n : Nat) (p : Bool) (h : (commit s i n p).2 ≠ .ok) :
    (commit s i n p).1.vis = s.vis :=
  (commit_err_or_ok s i n p).elim (·.2) (absurd ·.2 h)

theorem committed_bytes_exact (s : St) (i n : Nat) (w : Writer) (hw : s.ws[i]? = some w) (ha : w.alive = true)
    (off : Nat) (ho : off ≤ w.buf.length) :
    let s' := (commit s i n true).1
    (commit s i n true).2 = .ok ∧ «open» s' w.key off = .data (w.buf.drop off) ∧
      stat s' w.key = .stat w.buf.length n := by
  simp [commit, hw, ha, «open», stat, lookup, ho]

theorem failed_commit_reports_error (s : St) (i n : Nat) :
    (commit s i n false).2 = .err ∧ (commit s i n false).1.vis = s.vis :=
  (commit_err_or_ok s i n false).elim id (nomatch ·.1)

theorem lookup_erase_self (k : Key) (l : List (Key × (List UInt8 × Nat))) : lookup k (erase k l) = none := by
  induction l with
  | nil => rfl
  | cons p ps ih =>
    unfold erase at ih ⊢
    rw [List.filter_cons]
    split
    · next h => rw [lookup, if_neg (by simpa using h)]; exact ih
    · exact ih

theorem discard_hides (s : St) (k : Key) (off : Nat) : «open» (discard s k).1 k off = .err := by
  unfold discard «open»
  cases h : lookup k s.vis <;> simp [h, lookup_erase_self]

def RInv (r : RR) : Prop :=
  r.bytes ≤ r.data.length ∧ (∀ pos, r.conn = some pos → pos = r.bytes) ∧
    (r.status = .eof → r.bytes = r.data.length)

/-- what a `Read` with a buffer of `k` bytes owes its caller -/
def Exact (d : List UInt8) (b k : Nat) (x : RR × List UInt8) : Prop :=
  RInv x.1 ∧ x.2 = (d.drop b).take x.2.length ∧ x.1.bytes = b + x.2.length ∧
    x.2.length ≤ k ∧ x.1.data = d

theorem exact_nil {r : RR} {k : Nat} (hi : RInv r) : Exact r.data r.bytes k (r, []) :=
  ⟨hi, rfl, rfl, Nat.zero_le _, rfl⟩

theorem deliver_exact {r : RR} {pos want k : Nat} {later : Bool} {sc : List Ev} (hi : RInv r)
    (hc : r.conn = some pos) (hw : want ≤ k) :
    Exact r.data r.bytes k (r.deliver pos want later sc) := by
  obtain rfl := hi.2.1 pos hc
  refine ⟨⟨Nat.add_le_of_le_sub' hi.1 (List.length_drop ▸ List.length_take_le' want _), fun _ hp => (Option.some.inj hp).symm, fun he => ?_⟩,
    List.prefix_iff_eq_take.mp (List.take_prefix ..), rfl,
    Nat.le_trans (List.length_take_le ..) hw, rfl⟩
  simp only [RR.deliver] at he ⊢
  split at he
  · next hend => exact eq_of_beq (Bool.and_eq_true _ _ ▸ hend).1
  · cases he

theorem fail_exact {r : RR} {k : Nat} {x : RR × List UInt8} {sc : List Ev} (hi : RInv r) :
    (RInv (r.fail sc) → Exact (r.fail sc).data (r.fail sc).bytes k x) → Exact r.data r.bytes k x := by
  simp only [RR.fail]
  split
  · exact fun hx => hx ⟨hi.1, nofun, nofun⟩
  · exact fun hx => hx ⟨hi.1, nofun, hi.2.2⟩

/-- retry_exact (one call): whatever the failure script, a `Read` returns the next bytes of the committed stream, at most
`k` of them. -/
theorem read_exact (fuel : Nat) : ∀ (r : RR) (k : Nat), RInv r →
    let x := RR.read fuel r k
    RInv x.1 ∧ x.2 = (r.data.drop r.bytes).take x.2.length ∧ x.1.bytes = r.bytes + x.2.length ∧
      x.2.length ≤ k ∧ x.1.data = r.data := by
  intro r k
  show RInv r → Exact r.data r.bytes k (RR.read fuel r k)
  -- the cases are the branches of `RR.read`, in its order
  fun_induction RR.read fuel r k <;> intro hi
  -- out of fuel; sticky status
  case case1 r _ => exact exact_nil (r := { r with status := .err }) ⟨hi.1, hi.2.1, nofun⟩
  case case2 => exact exact_nil hi
  -- a failed open (3, 4) or read (6, 7)
  case case3 | case6 => exact fail_exact hi exact_nil
  case case4 ih | case7 ih => exact fail_exact hi ih
  -- (re)open at `bytes`; an `openFail` that meets an open connection is skipped
  case case5 ih => exact ih ⟨hi.1, fun _ hp => (Option.some.inj hp).symm, hi.2.2⟩
  case case8 ih => exact ih hi
  -- deliveries: short, complete with EOF held back, script exhausted
  case case9 hc => exact deliver_exact hi hc (Nat.min_le_right ..)
  case case10 hc | case11 hc => exact deliver_exact hi hc (Nat.le_refl _)

theorem Exact.rest {d b k x} (h : Exact d b k x) : x.2 ++ x.1.data.drop x.1.bytes = d.drop b := by
  obtain ⟨-, hx, hb, -, hd⟩ := h
  rw [hd, hb, ← List.drop_drop]
  exact List.prefix_iff_eq_append.mp (List.prefix_iff_eq_take.mpr hx)

/-- retry_exact: the bytes delivered by successive reads are a prefix of the committed stream from the starting offset, and
the whole of it when end-of-stream is reported. -/
theorem drain_exact (k : Nat) (fuel : Nat) : ∀ (r : RR), RInv r →
    let x := RR.drain k fuel r
    (∃ m, x.1 = (r.data.drop r.bytes).take m) ∧ (x.2 = .eof → x.1 = r.data.drop r.bytes) := by
  intro r
  fun_induction RR.drain k fuel r <;> intro hi
  case case1 => exact ⟨⟨0, rfl⟩, fun he => by rw [hi.2.2 he, List.drop_length]⟩
  case case2 r x _ _ ih =>
    have hx : Exact r.data r.bytes k x := read_exact _ _ _ hi
    obtain ⟨⟨m, hm⟩, hf⟩ := ih hx.1
    rw [← hx.rest]
    exact ⟨⟨x.2.length + m, by rw [List.take_length_add_append, hm]⟩, fun he => by rw [hf he]⟩
  case case3 r x _ =>
    have hx : Exact r.data r.bytes k x := read_exact _ _ _ hi
    rw [← hx.rest]
    exact ⟨⟨_, List.take_left.symm⟩, fun he => by rw [hx.1.2.2 he, List.drop_length, List.append_nil]⟩

example : RR.drain 4 20 ⟨[1, 2, 3, 4, 5, 6, 7], 0, none, 0,
    [.openFail, .short 2, .readFail 3, .short 1, .openFail, .eofLater], .more⟩ = ([1, 2, 3, 4, 5, 6, 7], .eof) := by
  decide +kernel

end BS.Store
