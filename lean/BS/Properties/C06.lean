import BS.Model.Fault
/-!
# C06 — user errors and panics surface as errors from Run

The decision logic: every failure mode of a user function leads to a task attempt
that is either fatal (`TaskErr`, evaluation stops with the error) or lost (resubmitted, at most
`maxConsecutiveLost` times in a row); `runTask` therefore ends with an error for every persistent
failure and with success when a temporary failure goes away.
-/
namespace BS.Fault

theorem attempt_not_ok (m : Mode) : attemptState m ≠ .ok := by cases m <;> decide

/-- errors, panics and out-of-range partitions are fatal to the task; temporary errors are retried -/
theorem attempt_fatal_iff (m : Mode) : attemptState m = .err ↔ m ≠ .tmp := by cases m <;> decide

theorem attempt_tmp_lost : attemptState .tmp = .lost := by decide

/-- the worker never reports an application failure as temporary (it would be retried without bound
by the RPC client) -/
theorem revise_app_not_temporary (s : Sev) : (reviseSev true s).isTemporary = false := by cases s <;> decide

/-- any attempt failure other than an application error is retried -/
theorem revise_other_not_fatal (s : Sev) : classify (reviseSev false s) = .lost := by cases s <;> decide

theorem runTask_attempts_le (att : Nat → TaskState) :
    ∀ fuel lost i, (runTask att fuel lost i).2 ≤ i + fuel := by
  intro fuel lost i
  -- the cases of `runTask`: out of fuel; the attempt is ok (`case2 fuel lost i hok`); fails for good; is lost for the
  -- last time; is lost and resubmitted (`case5 fuel lost i hlost hlt ih`)
  fun_induction runTask att fuel lost i with
  | case5 _ _ _ _ _ ih => omega
  | _ => simp

theorem runTask_persistent (att : Nat → TaskState) (h : ∀ i, att i ≠ .ok) (fuel lost i : Nat)
    (hl : lost < maxConsecutiveLost) :
    (runTask att fuel lost i).1 = .error ∧ (runTask att fuel lost i).2 ≤ i + (maxConsecutiveLost - lost) := by
  fun_induction runTask att fuel lost i with
  | case1 => exact ⟨rfl, Nat.le_add_right ..⟩
  | case2 _ _ i hok => exact absurd hok (h i)
  | case5 _ _ _ _ hlt ih => have := ih (Nat.lt_of_not_le hlt); exact ⟨this.1, by omega⟩
  | _ => exact ⟨rfl, Nat.add_le_add_left (Nat.sub_pos_of_lt hl) _⟩

/-- a persistent failure is an error within five attempts, whatever its mode -/
theorem persistent_failure_is_error (m : Mode) :
    (runTask (fun _ => attemptState m) maxConsecutiveLost 0 0).1 = .error ∧
      (runTask (fun _ => attemptState m) maxConsecutiveLost 0 0).2 ≤ maxConsecutiveLost := by
  simpa using runTask_persistent (fun _ => attemptState m) (fun _ => attempt_not_ok m) maxConsecutiveLost 0 0
    (by decide)

theorem runTask_recovers (att : Nat → TaskState) (k : Nat) (hlost : ∀ j < k, att j = .lost) (hok : att k = .ok)
    (d lost i : Nat) (hi : i + d = k) (hl : lost + d < maxConsecutiveLost) :
    runTask att (d + 1) lost i = (.success, k + 1) := by
  induction d generalizing lost i with
  | zero => obtain rfl : i = k := hi; rw [runTask, hok]
  | succ d ih =>
    rw [runTask, hlost i (hi ▸ Nat.lt_add_of_pos_right d.succ_pos)]
    exact (if_neg (by omega)).trans (ih (lost + 1) (i + 1) (by omega) (by omega))

theorem transient_failure_is_success (k : Nat) (hk : k < maxConsecutiveLost) :
    (runTask (fun i => if i < k then attemptState .tmp else .ok) (k + 1) 0 0).1 = .success := by
  rw [runTask_recovers _ k (fun j hj => by simp [hj, attempt_tmp_lost]) (by simp) k 0 0 (Nat.zero_add k) (by omega)]

/-- the demand table: a persistent failure never allows success, a one-shot temporary failure never allows an error -/
theorem demand_persistent (site : Site) (m : Mode) (fired : Nat) (h : 0 < fired) :
    demand site m false fired ≠ .succeed ∧ demand site m false fired ≠ .either := by
  rw [demand, if_neg (Nat.ne_of_gt h), if_neg Bool.false_ne_true]
  split
  · decide
  · split <;> decide

theorem demand_transient (site : Site) (fired : Nat) : demand site .tmp true fired = .succeed := by
  simp [demand]

/-- every panic and every reader/writer error must be reported with the user's message -/
theorem demand_message (site : Site) (fired : Nat) (h : 0 < fired) :
    demand site .panic false fired = .failWithMessage ∧
    demand .reader .err false fired = .failWithMessage ∧ demand .writer .err false fired = .failWithMessage := by
  simp [demand, Nat.ne_of_gt h]

example : (runTask (fun _ => attemptState .tmp) 5 0 0) = (.error, 5) := by decide
example : (runTask (fun i => if i < 2 then attemptState .tmp else .ok) 5 0 0) = (.success, 3) := by decide

end BS.Fault
