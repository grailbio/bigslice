import BS.Model.Limiter
/-!
# C14 (local mode) — at most `p` tasks run at once, an Exclusive task runs alone

For every parallelism `p ≥ 1` and every sequence of acquire / release events of any
number of task goroutines (every interleaving): the tokens held plus the tokens in
the limiter are always `p`, every running task holds at least one, hence at most
`p` run at once; a task that holds `p` tokens (an Exclusive one) is the only one
running; when nothing runs all tokens are back (no leak), and then every request
can be served (no deadlock at rest).
-/
namespace BS.Limiter

def Inv (s : LState) : Prop :=
  s.avail + total s.held = s.p ∧ ∀ x ∈ s.held, 1 ≤ x.2

theorem need_bounds (p : Nat) (hp : 1 ≤ p) (e : Bool) : 1 ≤ need p e ∧ need p e ≤ p := by
  unfold need
  split
  · exact ⟨hp, Nat.le_refl p⟩
  · exact ⟨Nat.le_refl 1, hp⟩

theorem total_cons (x : Nat × Nat) (l : List (Nat × Nat)) : total (x :: l) = x.2 + total l := rfl

section
variable {l : List (Nat × Nat)}

theorem total_perm {l' : List (Nat × Nat)} (h : l.Perm l') : total l = total l' := by
  induction h with
  | nil => rfl
  | cons x _ ih => rw [total_cons, total_cons, ih]
  | swap x y l => exact Nat.add_left_comm ..
  | trans _ _ ih ih' => exact ih.trans ih'

theorem perm_erase {t n : Nat} (h : lookup t l = some n) : l.Perm ((t, n) :: erase t l) := by
  fun_induction lookup t l with
  | case1 => cases h
  | case2 m r => cases h; rw [erase, if_pos rfl]
  | case3 a m r hne ih => rw [erase, if_neg hne]; exact ((ih h).cons _).trans (.swap ..)

theorem length_le_total (h : ∀ x ∈ l, 1 ≤ x.2) : l.length ≤ total l := by
  induction l with
  | nil => exact Nat.le_refl 0
  | cons a r ih =>
    obtain ⟨ha, hr⟩ := List.forall_mem_cons.mp h
    rw [List.length_cons, Nat.add_comm]
    exact Nat.add_le_add ha (ih hr)

theorem eq_singleton_of_total_le {x : Nat × Nat} (hx : x ∈ l) (h : ∀ y ∈ l, 1 ≤ y.2) (ht : total l ≤ x.2) :
    l = [x] := by
  have hperm := List.perm_cons_erase hx
  have hlen := length_le_total (l := l.erase x) fun y hy => h y (List.mem_of_mem_erase hy)
  rw [total_perm hperm, total_cons] at ht
  -- the other entries hold at least one token each, and none together
  have h0 := Nat.le_zero.mp (Nat.le_trans hlen (Nat.le_of_add_le_add_left ht))
  rw [List.eq_nil_of_length_eq_zero h0] at hperm
  exact List.perm_singleton.mp hperm

end

theorem Inv.total_le {s : LState} (h : Inv s) : total s.held ≤ s.p := h.1 ▸ Nat.le_add_left ..

theorem step_p (s : LState) (e : Ev) : (step s e).p = s.p := by
  fun_cases step s e <;> rfl

theorem step_inv (s : LState) (hp : 1 ≤ s.p) (h : Inv s) (e : Ev) : Inv (step s e) := by
  -- an acquire that is served (1), a release by a holder (3); in the other two arms nothing changes
  fun_cases step s e with
  | case1 t ex n hc =>
    refine ⟨?_, List.forall_mem_cons.mpr ⟨(need_bounds _ hp _).1, h.2⟩⟩
    rw [total_cons, ← Nat.add_assoc, Nat.sub_add_cancel hc.1]
    exact h.1
  | case3 t n hl =>
    have hperm := perm_erase hl
    have h1 := h.1
    rw [total_perm hperm, total_cons, ← Nat.add_assoc] at h1
    exact ⟨h1, fun x hx => h.2 x (hperm.mem_iff.mpr (List.mem_cons_of_mem _ hx))⟩
  | case2 | case4 => exact h

theorem limiter_inv (p : Nat) (hp : 1 ≤ p) (evs : List Ev) :
    (run (init p) evs).p = p ∧ Inv (run (init p) evs) :=
  List.foldlRecOn evs step (motive := fun s => s.p = p ∧ Inv s) ⟨rfl, rfl, List.forall_mem_nil _⟩
    fun s ⟨hs, h⟩ e _ => ⟨(step_p s e).trans hs, step_inv s (hs ▸ hp) h e⟩

theorem at_most_p_running (p : Nat) (hp : 1 ≤ p) (evs : List Ev) :
    (run (init p) evs).held.length ≤ p := by
  have ⟨hpp, h⟩ := limiter_inv p hp evs
  exact Nat.le_trans (length_le_total h.2) (le_of_le_of_eq h.total_le hpp)

theorem exclusive_runs_alone (p : Nat) (hp : 1 ≤ p) (evs : List Ev) (t : Nat)
    (h : (t, p) ∈ (run (init p) evs).held) : (run (init p) evs).held = [(t, p)] := by
  have ⟨hpp, hinv⟩ := limiter_inv p hp evs
  exact eq_singleton_of_total_le h hinv.2 (le_of_le_of_eq hinv.total_le hpp)

/-- what an exclusive acquire takes is all `p` tokens (so `exclusive_runs_alone` applies to it) -/
theorem exclusive_takes_all (s : LState) (t : Nat) (h : step s (.acquire t true) ≠ s) :
    (t, s.p) ∈ (step s (.acquire t true)).held := by
  dsimp only [step] at h ⊢
  split
  · exact List.mem_cons_self
  next hc => exact absurd (if_neg hc) h

theorem idle_all_tokens (p : Nat) (hp : 1 ≤ p) (evs : List Ev) (h : (run (init p) evs).held = []) :
    (run (init p) evs).avail = p := by
  have ⟨hpp, h1, _⟩ := limiter_inv p hp evs
  rw [h] at h1
  exact h1.trans hpp

/-- no deadlock at rest: every request (also an Exclusive one) is served -/
theorem idle_serves_any (p : Nat) (hp : 1 ≤ p) (evs : List Ev) (h : (run (init p) evs).held = [])
    (t : Nat) (e : Bool) : (step (run (init p) evs) (.acquire t e)).held = [(t, need p e)] := by
  simp only [step, (limiter_inv p hp evs).1, idle_all_tokens p hp evs h, h, lookup, (need_bounds p hp e).2, and_self,
    if_true]

/-- a request that has to wait waits for somebody: some task holds tokens, whose deferred release will come (there is no
state in which a request waits while nothing runs) -/
theorem blocked_has_holder (p : Nat) (hp : 1 ≤ p) (evs : List Ev) (t : Nat) (e : Bool)
    (hb : step (run (init p) evs) (.acquire t e) = run (init p) evs) : (run (init p) evs).held ≠ [] := by
  intro h
  have := idle_serves_any p hp evs h t e
  rw [hb, h] at this
  cases this

/-- a release by a task that holds nothing changes nothing (the deferred release is the only one) -/
theorem release_unheld (s : LState) (t : Nat) (h : lookup t s.held = none) : step s (.release t) = s := by
  simp only [step, h]

/-- non-vacuity: p = 3, two plain tasks run, an exclusive one waits until both have finished -/
example : (run (init 3) [.acquire 0 false, .acquire 1 false, .acquire 2 true]).held = [(1, 1), (0, 1)] := by decide +kernel
example : (run (init 3) [.acquire 0 false, .acquire 1 false, .acquire 2 true, .release 0, .release 1,
    .acquire 2 true, .acquire 3 false]).held = [(2, 3)] := by decide +kernel

end BS.Limiter
