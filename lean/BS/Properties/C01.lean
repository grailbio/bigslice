import BS.Proofs.Exec
/-!
# C01 — running a slice program yields exactly the rows its operators prescribe

`exec σ` carries a program out the way the engine does, for an arbitrary *strategy* `σ` (destination sizes, upstream
chunking and EOF placement, a rearrangement of the producers' partitions at every shuffle).  `exec_refines_sem`: where
the program fixes its result (`wfNodes`: Head only over rows whose order is fixed), every node holds per shard the rows
of the reference `Sem.eval`: identical lists where the order is fixed, equal multisets otherwise.

From `Exec` to /repo: the per-layer ties (readers C17, combiner C09, merge C10, partitioner C05, compile C08) and the
correspondence of `Sem` with real runs (T1 of C01/C04).
-/
namespace BS.Exec
open BS.Prog BS.KV BS.Part BS.Sem BS.Reader

theorem execOp_sim (σ : Strategy) (hσ : σ.Valid) (i : Nat) {env env' res res' : List Shards}
    (he : All2 Sim env env') (hr : All2 Sim res res') (op : Op) (hwf : wfOp env' res' op = true) :
    Sim (execOp σ i env res op) (evalOp env' res' op) := by
  have hg := getRef_sim he hr
  cases op with
  | const | reader | lines | readcache => exact .refl _
  | count s | writer s | cache s => exact hg s
  | map s f => exact (hg s).imap (runMap_eq σ hσ i · _) (.inr fun _ _ h => h.map _)
  | filter s pr => exact (hg s).imap (runFilter_eq σ hσ i · _) (.inr fun _ _ h => h.filter _)
  | flatmap s g => exact (hg s).imap (runFlat_eq σ hσ i · _) (.inr fun _ _ h => h.flatMap_right _)
  | head s n => exact (hg s).imap (runHead_eq σ hσ i · n) (.inl ((hg s).ord.trans hwf))
  | fold s =>
    dsimp only [execOp, evalOp, redistribute]
    rw [List.map_map, (hg s).len]
    exact shuffle_sim σ hσ i (fun _ _ h => .of_eq (foldMap_perm _ Int.add_comm Int.add_assoc _ _ h)) (hg s)
  | reduce s c =>
    dsimp only [execOp, evalOp, redistribute]
    -- combining every stream, then reduce-merging, is one fold over all the rows that arrived
    simp only [List.map_map, spill_runs_spec _ (combFn_comm c) (combFn_assoc c)]
    rw [(hg s).len]
    exact shuffle_sim σ hσ i (fun _ _ h => .of_eq (foldMap_perm _ (combFn_comm c) (combFn_assoc c) _ _ h)) (hg s)
  | cogroup a b =>
    dsimp only [execOp, evalOp]
    rw [(hg a).len, (hg b).len]
    exact ⟨rfl, All2.map_same fun p => .of_eq <| cogroupShard_perm
      (arrive_perm σ hσ i 0 _ p (hg a).flatten_perm) (arrive_perm σ hσ i 1 _ p (hg b).flatten_perm)⟩
  | reshuffle s | reshuffle2 s | repartition s =>
    dsimp only [execOp, evalOp]
    rw [(hg s).len]
    exact shuffle_sim σ hσ i (o := false) (G := id) (fun _ _ h => h) (hg s)
  | reshard s m =>
    dsimp only [execOp, evalOp]
    rw [(hg s).len]
    cases (getRef env' res' s).rows.length == m with
    | false => exact shuffle_sim σ hσ i (o := false) (G := id) (fun _ _ h => h) (hg s)
    | true => exact hg s
  | scan s => exact ⟨rfl, (hg s).rows.map fun _ => .of_eq rfl⟩

theorem execNodes_sim (σ : Strategy) (hσ : σ.Valid) {res res' : List Shards} (hr : All2 Sim res res') (ops : List Op)
    {env env' : List Shards} (he : All2 Sim env env') (hwf : wfNodes res' ops env' = true) :
    All2 Sim (execNodes σ res ops env) (evalNodes res' ops env') := by
  induction ops generalizing env env' with
  | nil => exact he
  | cons op ops ih =>
    have ⟨h1, h2⟩ := Bool.and_eq_true_iff.mp hwf
    exact ih (he.append (.cons (execOp_sim σ hσ _ he hr op h1) .nil)) h2

/-- `res`, `res'` may differ as long as they agree: a result recomputed under another strategy (C12) is such an argument -/
theorem exec_refines_sem (σ : Strategy) (hσ : σ.Valid) (p : Program) {res res' : List Shards}
    (hr : All2 Sim res res') (hwf : wfNodes res' p.nodes [] = true) :
    All2 Sim (exec σ p res).1 (eval p res').1 ∧ Sim (exec σ p res).2 (eval p res').2 := by
  have h := execNodes_sim σ hσ hr p.nodes All2.nil hwf
  exact ⟨h, getRef_sim h hr p.out⟩

/-- no row lost, duplicated or invented; the prescribed shard count -/
theorem exec_rows_perm (σ : Strategy) (hσ : σ.Valid) (p : Program) (res : List Shards)
    (hwf : wfNodes res p.nodes [] = true) :
    (exec σ p res).2.rows.flatten.Perm (eval p res).2.rows.flatten ∧
      (exec σ p res).2.rows.length = (eval p res).2.rows.length := by
  have h := (exec_refines_sem σ hσ p (All2.refl Sim.refl res) hwf).2
  exact ⟨h.flatten_perm, h.len⟩

/-- row for row where the program fixes the order -/
theorem exec_ordered_eq (σ : Strategy) (hσ : σ.Valid) (p : Program) (res : List Shards)
    (hwf : wfNodes res p.nodes [] = true) (ho : (eval p res).2.ordered = true) :
    (exec σ p res).2.rows = (eval p res).2.rows :=
  have h := (exec_refines_sem σ hσ p (All2.refl Sim.refl res) hwf).2
  h.rows_eq (h.ord.trans ho)

/-- what a side-effecting operator (Scan, WriterFunc) is handed is every row exactly once, in order.  About the reading
only: `execOp` does not go through `observed`. -/
theorem observed_eq (σ : Strategy) (hσ : σ.Valid) (i p : Nat) (rows : List KV) : observed σ i p rows = rows :=
  (runMap_eq σ hσ i p id rows).trans (List.map_id rows)

def demoσ : Strategy where
  dest := fun _ _ c => c % 3 + 1
  script := fun _ p => [(1, false), (0, false), (p + 1, true)]
  arrange := fun _ _ _ xs => xs.reverse

theorem demoσ_valid : demoσ.Valid :=
  ⟨fun _ _ _ => Nat.succ_pos _, fun _ _ _ xs => (List.reverse_perm xs).flatten⟩

theorem wfOp_sim {env env' res res' : List Shards} (he : All2 Sim env env') (hr : All2 Sim res res') (op : Op) :
    wfOp env res op = wfOp env' res' op := by
  unfold wfOp
  split
  · exact (getRef_sim he hr _).ord
  · rfl

/-- read off `execOp_sim`: both sides are what one strategy computes, and any valid one serves -/
theorem evalOp_congr {env env' res res' : List Shards} (he : All2 Sim env env') (hr : All2 Sim res res') (op : Op)
    (hwf : wfOp env' res' op = true) : Sim (evalOp env res op) (evalOp env' res' op) :=
  (execOp_sim demoσ demoσ_valid 0 (All2.refl Sim.refl env) (All2.refl Sim.refl res) op
    ((wfOp_sim he hr op).trans hwf)).symm.trans (execOp_sim demoσ demoσ_valid 0 he hr op hwf)

def demoProg : Program :=
  ⟨[.const 3 [(1, 1), (2, 2), (1, 3), (4, 4), (2, 5), (7, 6), (1, 7)], .flatmap (.node 0) "two", .reduce (.node 1) "add",
    .map (.node 2) "inc" .none, .reshuffle (.node 3), .head (.node 3) 2], .node 4⟩

example : wfNodes [] demoProg.nodes [] = true := by decide

end BS.Exec
