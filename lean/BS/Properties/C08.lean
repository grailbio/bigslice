import BS.Model.Compile
/-!
# C08 — an invocation compiles to the same well-formed task graph everywhere

`compile` is a function of the invocation's slice DAG, the machine-combiner flag and the argument results: determinism is
by construction (the Go sources of nondeterminism — map iteration, pointer identity — do not occur in the data it
consults).  The theorems are what the evaluator relies on: every dependency points to an earlier task
(`TWF`; C03 assumes as much of its graph, as `Acyc`, and no theorem carries the one over to the other).
`StWF`: the task list is `TWF` and every id in the memo and in the argument results is a task (`IdsOK`).  `CallSpec`, the
contract of a recursive call (`compile_spec`): the state stays `StWF`, tasks are only added, the ids returned are tasks;
`Post` is its conclusion as a predicate of the returned pair.
-/
namespace BS.Compile
open BS.Prog

def TWF (ts : List MTask) : Prop := ∀ (i : Nat) (t : MTask), ts[i]? = some t → ∀ d ∈ t.deps, d.head < i

def IdsOK (st : CState) (ids : List Nat) : Prop := ∀ i ∈ ids, i < st.tasks.length

def StWF (env : Env) (st : CState) : Prop :=
  TWF st.tasks ∧ (∀ e ∈ st.memo, IdsOK st e.2) ∧ ∀ rts ∈ env.results, IdsOK st rts

def CallSpec (env : Env) (rec : Nat → Part → CState → Option (CState × List Nat)) : Prop :=
  ∀ sid part st st' ids, StWF env st → rec sid part st = some (st', ids) →
    StWF env st' ∧ st.tasks.length ≤ st'.tasks.length ∧ IdsOK st' ids

def Post (env : Env) (st : CState) (r : CState × List Nat) : Prop :=
  StWF env r.1 ∧ st.tasks.length ≤ r.1.tasks.length ∧ IdsOK r.1 r.2

theorem setGroup_length (ts : List MTask) (ids : List Nat) : (setGroup ts ids).length = ts.length := by
  cases ids
  · rfl
  · exact List.length_mapIdx

theorem TWF.setGroup {ts : List MTask} (h : TWF ts) (ids : List Nat) : TWF (setGroup ts ids) := by
  cases ids with
  | nil => exact h
  | cons j js =>
    intro i t ht
    obtain ⟨t', ht', rfl⟩ := Option.map_eq_some_iff.1 (List.getElem?_mapIdx ▸ ht)
    split <;> exact h i t' ht'

theorem TWF.append {ts new : List MTask} (h : TWF ts)
    (hn : ∀ t ∈ new, ∀ d ∈ t.deps, d.head < ts.length) : TWF (ts ++ new) := by
  intro i t ht d hd
  rw [List.getElem?_append] at ht
  split at ht
  next => exact h i t ht d hd
  next hi => exact Nat.lt_of_lt_of_le (hn t (List.mem_of_getElem? ht) d hd) (Nat.le_of_not_lt hi)

section
variable {env : Env} {st st' : CState} {ids : List Nat}

theorem IdsOK.mono (h : IdsOK st ids) (hl : st.tasks.length ≤ st'.tasks.length) : IdsOK st' ids :=
  fun i hi => Nat.lt_of_lt_of_le (h i hi) hl

theorem StWF.mono (hw : StWF env st) (ht : TWF st'.tasks) (hl : st.tasks.length ≤ st'.tasks.length)
    (hm : ∀ e ∈ st'.memo, e ∈ st.memo ∨ IdsOK st' e.2) : StWF env st' :=
  ⟨ht, fun e he => (hm e he).elim (fun h => (hw.2.1 e h).mono hl) id, fun rts hr => (hw.2.2 rts hr).mono hl⟩

theorem finish_spec (sid : Nat) (part : Part) (hw : StWF env st) (hi : IdsOK st ids) :
    StWF env (finish sid part st ids).1 ∧ (finish sid part st ids).1.tasks.length = st.tasks.length ∧
      (finish sid part st ids).2 = ids := by
  -- two optional updates, each keeping the invariant and the number of tasks
  have group (b : Bool) (s : CState) (h : StWF env s ∧ s.tasks.length = st.tasks.length) :
      let s' := if b then { s with tasks := setGroup s.tasks ids } else s
      StWF env s' ∧ s'.tasks.length = st.tasks.length := by
    split
    · have hl := setGroup_length s.tasks ids
      exact ⟨h.1.mono (h.1.1.setGroup ids) (Nat.le_of_eq hl.symm) fun e he => .inl he, hl.trans h.2⟩
    · exact h
  have memo (b : Bool) (s : CState) (h : StWF env s ∧ s.tasks.length = st.tasks.length) :
      let s' := if b then { s with memo := ((sid, part.np), ids) :: s.memo } else s
      StWF env s' ∧ s'.tasks.length = st.tasks.length := by
    split
    · refine ⟨h.1.mono h.1.1 (Nat.le_refl _) fun e he => ?_, h.2⟩
      rcases List.mem_cons.1 he with rfl | he
      · exact .inr (hi.mono (Nat.le_of_eq h.2.symm))
      · exact .inl he
    · exact h
  exact and_assoc.1 ⟨memo (!part.comb && !part.custom) _ (group (part.np != 0) st ⟨hw, rfl⟩), rfl⟩

theorem Post.mono {r : CState × List Nat} (h : Post env st' r) (hl : st.tasks.length ≤ st'.tasks.length) :
    Post env st r :=
  ⟨h.1, Nat.le_trans hl h.2.1, h.2.2⟩

theorem finish_post {sid part} (hw : StWF env st) (hi : IdsOK st ids) : Post env st (finish sid part st ids) :=
  have ⟨hw', hlen, _⟩ := finish_spec sid part hw hi
  ⟨hw', Nat.le_of_eq hlen.symm, hi.mono (Nat.le_of_eq hlen.symm)⟩

theorem append_post {new : List MTask} {n sid part namer} (hw : StWF env st)
    (hn : ∀ t ∈ new, ∀ d ∈ t.deps, d.head < st.tasks.length) (hl : new.length = n) :
    Post env st (finish sid part { st with namer := namer, tasks := st.tasks ++ new }
      ((List.range n).map (· + st.tasks.length))) := by
  have hl' : st.tasks.length ≤ (st.tasks ++ new).length := List.length_append ▸ Nat.le_add_right ..
  refine Post.mono (finish_post (hw.mono (hw.1.append hn) hl' fun e he => .inl he) fun i hi => ?_) hl'
  obtain ⟨k, hk, rfl⟩ := List.mem_map.1 hi
  rw [Nat.add_comm]
  exact List.length_append ▸ Nat.add_lt_add_left (hl ▸ List.mem_range.1 hk) _

end

theorem goDeps_spec {env rec} (hr : CallSpec env rec) {n lc ck deps st acc r}
    (h : goDeps rec n lc ck deps st acc = some r) (hw : StWF env st)
    (ha : ∀ ds ∈ acc, ∀ d ∈ ds, d.head < st.tasks.length) :
    StWF env r.1 ∧ st.tasks.length ≤ r.1.tasks.length ∧ (acc.length = n → r.2.length = n) ∧
      ∀ ds ∈ r.2, ∀ d ∈ ds, d.head < r.1.tasks.length := by
  -- `case4` is a non-shuffle, `case7` a shuffle dependency whose recursive call succeeded
  fun_induction goDeps rec n lc ck deps st acc with
  | case1 =>
    cases h
    exact ⟨hw, Nat.le_refl _, id, ha⟩
  | case2 | case3 | case5 | case6 => cases h
  | case4 dep rest st acc _ st1 ids hrec hl ih =>
    obtain ⟨hw1, hle1, hids⟩ := hr _ _ _ _ _ hw hrec
    obtain ⟨hw2, hle2, hlen, hdeps⟩ := ih h hw1 <| by
      intro _ hm d hd
      obtain ⟨⟨ds, id⟩, hz, rfl⟩ := List.mem_map.1 hm
      rcases List.mem_append.1 hd with hd | hd
      · exact Nat.lt_of_lt_of_le (ha ds (List.of_mem_zip hz).1 d hd) hle1
      · exact List.mem_singleton.1 hd ▸ hids id (List.of_mem_zip hz).2
    exact ⟨hw2, Nat.le_trans hle1 hle2, fun hn => hlen (by simp [hn, show ids.length = n by simpa using hl]), hdeps⟩
  | case7 dep rest st acc _ st1 h0 tl hrec ih =>
    obtain ⟨hw1, hle1, hids⟩ := hr _ _ _ _ _ hw hrec
    obtain ⟨hw2, hle2, hlen, hdeps⟩ := ih h hw1 <| by
      intro _ hm d hd
      obtain ⟨⟨ds, p⟩, hz, rfl⟩ := List.mem_map.1 hm
      rcases List.mem_append.1 hd with hd | hd
      · exact Nat.lt_of_lt_of_le (ha ds (List.fst_mem_of_mem_zipIdx hz) d hd) hle1
      · exact List.mem_singleton.1 hd ▸ hids h0 List.mem_cons_self
    exact ⟨hw2, Nat.le_trans hle1 hle2, fun hn => hlen (by simpa using hn), hdeps⟩

theorem StWF.results_getD {env st} (hw : StWF env st) (r : Nat) : IdsOK st (env.results.getD r []) := by
  rw [List.getD_eq_getElem?_getD]
  cases h : env.results[r]? with
  | none =>
    intro i hi
    cases hi
  | some rts => exact hw.2.2 rts (List.mem_of_getElem? h)

theorem compileResult_spec {env sid part st r res} (hw : StWF env st) :
    compileResult env sid part st r = some res → Post env st res := by
  have hres := hw.results_getD r
  -- `case2` reuses the result's tasks, `case3` adds the re-shuffle tasks `nts`
  fun_cases compileResult env sid part st r with
  | case1 => nofun
  | case2 =>
    rintro ⟨⟩
    exact finish_post hw hres
  | case3 =>
    rename_i nts
    rintro ⟨⟩
    refine append_post hw ?_ (by rw [List.length_map, List.length_zipIdx])
    simp only [nts, List.forall_mem_map, Prod.forall, List.mem_singleton, forall_eq]
    exact fun rt _ hz => hres rt (List.fst_mem_of_mem_zipIdx hz)

theorem newTasks_length (opName : String) (names : List String) (mat : Bool) (part : Part) (n : Nat)
    (depLists : List (List TDep)) : (newTasks opName names mat part n depLists).length = depLists.length := by
  simp [newTasks]

theorem compileGeneral_spec {env d rec} (hr : CallSpec env rec) {sid part st res} (hw : StWF env st) :
    compileGeneral env d rec sid part st = some res → Post env st res := by
  fun_cases compileGeneral env d rec sid part st with
  | case1 => nofun
  | case2 =>
    rename_i st1 depLists hgo _
    rintro ⟨⟩
    obtain ⟨hw1, hle1, hlen, hdeps⟩ := goDeps_spec hr hgo hw <| by
      rintro _ h _ hd
      cases List.eq_of_mem_replicate h
      cases hd
    refine (append_post hw1 ?_ ((newTasks_length ..).trans (hlen List.length_replicate))).mono hle1
    simp only [newTasks, List.forall_mem_map, Prod.forall]
    exact fun ds _ hz => hdeps ds (List.fst_mem_of_mem_zipIdx hz)

theorem compile_spec (env : Env) (d : Dag) (fuel : Nat) : CallSpec env (compile env d fuel) := by
  induction fuel with
  | zero =>
    intro sid part st st' ids _ h
    cases h
  | succ fuel ih =>
    intro sid part st st' ids hw h
    rw [compile] at h
    split at h
    next mids hm =>
      -- a memo hit
      cases h
      obtain ⟨-, hm⟩ := Option.ite_none_right_eq_some.1 hm
      obtain ⟨e, he, rfl⟩ := Option.map_eq_some_iff.1 hm
      exact ⟨hw, Nat.le_refl _, hw.2.1 e (List.mem_of_find?_eq_some he)⟩
    next =>
      split at h
      · exact compileResult_spec hw h
      · exact compileGeneral_spec ih hw h

/-- The start state is well formed (`stwf_empty`: the empty one, when no results are passed).  Dependency phases can then be
evaluated by recursion on task ids. -/
theorem compile_acyclic (env : Env) (d : Dag) (fuel sid : Nat) (st : CState) (st' : CState) (ids : List Nat)
    (hw : StWF env st) (h : compile env d fuel sid Part.none st = some (st', ids)) :
    TWF st'.tasks ∧ IdsOK st' ids :=
  let r := compile_spec env d fuel sid Part.none st st' ids hw h
  ⟨r.1.1, r.2.2⟩

theorem stwf_empty (env : Env) (h : env.results = []) : StWF env ⟨[], [], []⟩ := by
  refine ⟨?_, ?_, ?_⟩
  · intro i t ht; cases ht
  · intro e he; cases he
  · intro rts hr; rw [h] at hr; cases hr

/-- the producer of a shuffle dependency is compiled with as many partitions as the consumer has shards (the `n` in
`hrec`); consumer shard `p` reads partition `p` of it -/
theorem shuffle_wiring (rec) (n : Nat) (lc : Bool) (ck : String) (dep : SDep) (st st1 : CState)
    (acc : List (List TDep)) (h : Nat) (tl : List Nat) (hs : dep.shuffle = true)
    (hrec : rec dep.slice ⟨n, dep.custom, lc, ck⟩ st = some (st1, h :: tl)) :
    goDeps rec n lc ck [dep] st acc
      = some (st1, acc.zipIdx.map fun (ds, p) => ds ++ [⟨h, p, dep.expand, ck⟩]) := by
  simp [goDeps, hs, hrec]

/-- the producer of a non-shuffle dependency is compiled without partitioning and wired shard to shard, partition 0 -/
theorem direct_wiring (rec) (n : Nat) (lc : Bool) (ck : String) (dep : SDep) (st st1 : CState)
    (acc : List (List TDep)) (ids : List Nat) (hs : dep.shuffle = false) (hl : ids.length = n)
    (hrec : rec dep.slice Part.none st = some (st1, ids)) :
    goDeps rec n lc ck [dep] st acc
      = some (st1, (acc.zip ids).map fun (ds, id) => ds ++ [⟨id, 0, dep.expand, ""⟩]) := by
  simp [goDeps, hs, hrec, hl]

/-- one task per shard, each with the stage's partition configuration -/
theorem newTasks_spec (opName : String) (names : List String) (mat : Bool) (part : Part) (n : Nat)
    (depLists : List (List TDep)) (hl : depLists.length = n) :
    (newTasks opName names mat part n depLists).length = n ∧
    ∀ i (h : i < (newTasks opName names mat part n depLists).length),
      let t := (newTasks opName names mat part n depLists)[i]
      t.shard = i ∧ t.numShard = n ∧ t.op = opName ∧ t.hasPart = true ∧
        t.np = (if part.np == 0 then 1 else part.np) ∧ t.comb = part.comb ∧ t.ck = part.ck := by
  refine ⟨(newTasks_length ..).trans hl, fun i h => ?_⟩
  simp only [newTasks, List.getElem_map, List.getElem_zipIdx, Nat.zero_add, and_self]

/-- a pipeline never crosses a shuffle dependency, a Materialize pragma or a reused result -/
theorem pipeline_stops (d : Dag) (fuel sid : Nat) (dep : SDep) (hd : (d.get sid).deps = [dep])
    (hnr : (d.get sid).isResult = none)
    (hstop : dep.shuffle = true ∨ (d.get dep.slice).mat = true) :
    pipeline d (fuel + 1) sid = [sid] := by
  rcases hstop with h | h <;> simp [pipeline, hnr, hd, h]

theorem pipeline_result (d : Dag) (fuel sid : Nat) (r : Nat) (h : (d.get sid).isResult = some r) :
    pipeline d (fuel + 1) sid = [] := by
  simp [pipeline, h]

def exDag : Dag :=
  { nodes := [⟨"const", 2, [], false, false, none, none⟩, ⟨"map", 2, [⟨0, false, false, false⟩], false, false, none, none⟩,
              ⟨"reduce", 2, [⟨1, true, false, true⟩], true, false, none, none⟩],
    ofNode := [0, 1, 2] }
def exEnv : Env := { mc := true, inv := "X", results := [] }

example : ((compile exEnv exDag 5 2 Part.none ⟨[], [], []⟩).map fun r => (r.2, r.1.tasks.length)) = some ([2, 3], 4) :=
  rfl

end BS.Compile
