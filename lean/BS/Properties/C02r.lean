import BS.Properties.C02
import BS.Proofs.ListSet
/-!
# C02 (progress) — once losses stop, recomputation completes

The second half of the property: "when replacement machines can be started and losses stop, it completes
successfully by recomputing the lost task outputs".  In the abstract task graph of `BS.Loss`: in every state —
whatever was lost, whenever — in which some output is missing there is a missing task all of whose
dependencies are present (`never_stuck`: the evaluator always has something it may hand out); running *any*
such task (every scheduler choice) takes exactly one off the number of missing outputs (`run_decreases`); so
every loss-free continuation that only runs ready tasks has all outputs present after exactly `missing s`
task executions (`recovery_completes`), and as in `loss_safe` those outputs are the failure-free ones
(`recovery_correct`).
-/
namespace BS.Loss

variable {V : Type}

def missing (s : St V) : Nat := (s.filter Option.isNone).length

def Ready (g : Graph V) (s : St V) (t : Nat) : Prop :=
  t < g.n ∧ s.get t = none ∧ ∀ d ∈ g.deps t, (s.get d).isSome

def WF (g : Graph V) : Prop := ∀ t, t < g.n → ∀ d ∈ g.deps t, d < t

theorem get_of_lt {s : St V} {t : Nat} (h : t < s.length) : s.get t = s[t] := by
  simp [St.get, h]

theorem missing_pos_iff (s : St V) : 0 < missing s ↔ ∃ t, ∃ _ : t < s.length, s.get t = none := by
  simp only [missing, List.length_filter_pos_iff, List.exists_mem_iff_exists_getElem, Option.isNone_iff_eq_none]
  exact exists_congr fun t => exists_congr fun h => by rw [get_of_lt h]

theorem never_stuck (g : Graph V) (hw : WF g) (s : St V) (hl : s.length = g.n) (h : 0 < missing s) :
    ∃ t, Ready g s t := by
  obtain ⟨t, ht, hn⟩ := (missing_pos_iff s).1 h
  rw [hl] at ht
  -- from a missing task go down to a missing dependency as long as there is one; `WF` makes this end
  induction t using Nat.strongRecOn with
  | _ t ih =>
    by_cases hd : ∀ d ∈ g.deps t, (s.get d).isSome
    · exact ⟨t, ht, hn, hd⟩
    · simp only [Classical.not_forall, Option.not_isSome_iff_eq_none] at hd
      obtain ⟨d, hd, hdn⟩ := hd
      have hdt := hw t ht d hd
      exact ih d hdt (Nat.lt_trans hdt ht) hdn

theorem run_decreases (s : St V) (t : Nat) (v : V) (ht : t < s.length) (hn : s.get t = none) :
    missing (apply s (.run t v)) + 1 = missing s := by
  rw [get_of_lt ht] at hn
  -- the run exchanges the entry `none` for `some v` (`perm_set`): among the missing, `none` counts and `some v` does not
  exact ((perm_set (List.getElem?_eq_some_iff.mpr ⟨ht, hn⟩) (some v)).filter Option.isNone).length_eq

def ReadyRuns (g : Graph V) : St V → List (Nat × V) → Prop
  | _, [] => True
  | s, (t, v) :: r => Ready g s t ∧ ReadyRuns g (apply s (.run t v)) r

def runs (s : St V) (evs : List (Nat × V)) : St V := evs.foldl (fun s e => apply s (.run e.1 e.2)) s

theorem length_runs (s : St V) (evs : List (Nat × V)) : (runs s evs).length = s.length :=
  List.foldlRecOn (motive := fun s' : St V => s'.length = s.length) evs _ rfl fun s' h _ _ => (length_apply s' _).trans h

theorem missing_after (g : Graph V) (evs : List (Nat × V)) (s : St V) (hl : s.length = g.n) (hr : ReadyRuns g s evs) :
    missing (runs s evs) + evs.length = missing s := by
  induction evs generalizing s with
  | nil => rfl
  | cons e r ih =>
    obtain ⟨⟨ht, hn, _⟩, hr⟩ := hr
    rw [← run_decreases s e.1 e.2 (hl ▸ ht) hn, ← ih _ ((length_apply s _).trans hl) hr]
    rfl

/-- Together with `never_stuck` (a shorter continuation can always be extended): recomputation terminates after exactly
`missing s` task executions. -/
theorem recovery_completes (g : Graph V) (s : St V) (hl : s.length = g.n) (evs : List (Nat × V))
    (hr : ReadyRuns g s evs) :
    evs.length ≤ missing s ∧
      (evs.length = missing s → ∀ t, t < g.n → ((runs s evs).get t).isSome) := by
  have h := missing_after g evs s hl hr
  refine ⟨h ▸ Nat.le_add_left .., fun he t ht => ?_⟩
  rw [Option.isSome_iff_ne_none]
  intro hn
  have := (missing_pos_iff _).2 ⟨t, (length_runs s evs).trans hl ▸ ht, hn⟩
  exact Nat.ne_of_gt this (Nat.add_eq_right.mp (h.trans he.symm))

/-- If moreover each of those executions is legal in the sense of `loss_safe`, every task then has an output equivalent to
that of the failure-free reference run. -/
theorem recovery_correct (R : V → V → Prop)
    (hcongr : ∀ (g : Graph V) t (xs ys : List V), Rel R xs ys → R (g.f t xs) (g.f t ys))
    (htrans : ∀ a b c, R a b → R b c → R a c)
    (g : Graph V) (s : St V) (hi : Inv R g s) (evs : List (Nat × V)) (hr : ReadyRuns g s evs)
    (hleg : ∀ pre e post, evs = pre ++ e :: post → Legal R g (runs s pre) (.run e.1 e.2))
    (he : evs.length = missing s) :
    ∀ t, t < g.n → ∃ v r, (runs s evs).get t = some v ∧ (refVals g g.n)[t]? = some r ∧ R v r := by
  intro t ht
  obtain ⟨v, hv⟩ := Option.isSome_iff_exists.1 ((recovery_completes g s hi.1 evs hr).2 he t ht)
  have hinv : Inv R g (runs s evs) :=
    foldl_inv (fun s (e : Nat × V) => step_inv R hcongr htrans g s (.run e.1 e.2)) evs s hi hleg
  obtain ⟨r, hr, hvr⟩ := hinv.2 t v hv
  exact ⟨v, r, hv, hr, hvr⟩

/-- non-vacuity: the demo graph after the loss of tasks 0 and 2 — task 0 is ready, task 2 is not; two
executions restore everything -/
example : missing ([none, some 6, none] : St Nat) = 2 := by decide
example : Ready demoG ([none, some 6, none] : St Nat) 0 := by unfold Ready; decide
example : ¬ Ready demoG ([none, some 6, none] : St Nat) 2 := by unfold Ready; decide
example : runs ([none, some 6, none] : St Nat) [(0, 5), (2, 11)] = [some 5, some 6, some 11] := by decide

end BS.Loss
