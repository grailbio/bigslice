import BS.Model.Diff
import BS.Model.Inv
/-!
# C16 — the location diff is empty exactly when the registries agree, and otherwise transforms one into the other
(`BS.Diff`: all lists, no length bound); invocation arguments arrive at the
worker as sent, or the encoding fails as a whole (`BS.Inv`).
-/
namespace BS.Diff

theorem leftOf_eq_filterMap {α : Type} (es : List (Edit α)) :
    leftOf es = es.filterMap fun | .keep a | .del a => some a | .add _ => none := by
  fun_induction leftOf es <;> simp [*]

theorem rightOf_eq_filterMap {α : Type} (es : List (Edit α)) :
    rightOf es = es.filterMap fun | .keep a | .add a => some a | .del _ => none := by
  fun_induction rightOf es <;> simp [*]

theorem leftOf_reverse {α : Type} (es : List (Edit α)) : leftOf es.reverse = (leftOf es).reverse := by
  simp only [leftOf_eq_filterMap, List.filterMap_reverse]

theorem rightOf_reverse {α : Type} (es : List (Edit α)) : rightOf es.reverse = (rightOf es).reverse := by
  simp only [rightOf_eq_filterMap, List.filterMap_reverse]

variable {α : Type} [DecidableEq α]

theorem leftOf_trace (l r : List α) : leftOf (trace l r) = l := by
  fun_induction trace l r <;> simp [leftOf, *]

theorem rightOf_trace (l r : List α) : rightOf (trace l r) = r := by
  fun_induction trace l r <;> simp [rightOf, *]

theorem trace_all_isKeep (l r : List α) : (trace l r).all Edit.isKeep = true ↔ l = r := by
  fun_induction trace l r <;> simp [Edit.isKeep, *]

theorem diff_eq (lhs rhs : List α) :
    diff lhs rhs = if lhs = rhs then none else some (trace lhs.reverse rhs.reverse).reverse := by
  simp only [diff, trace_all_isKeep, List.reverse_inj]

theorem diff_nil_iff_eq (lhs rhs : List α) : diff lhs rhs = none ↔ lhs = rhs := by
  rw [diff_eq]
  split <;> simp [*]

/-- A non-nil diff is a forward edit script: the unmarked and `-` lines give `lhs`, the unmarked and `+` lines `rhs`. -/
theorem diff_transforms (lhs rhs : List α) (d : List (Edit α)) (h : diff lhs rhs = some d) :
    leftOf d = lhs ∧ rightOf d = rhs := by
  rw [diff_eq] at h
  split at h <;> cases h
  simp [leftOf_reverse, rightOf_reverse, leftOf_trace, rightOf_trace]

/-- the example in the doc comment of `FuncLocationsDiff` (func.go:260-275) -/
example : diff ["a", "b", "c"] ["a", "c"] = some [.keep "a", .del "b", .keep "c"] := by
  decide +kernel

end BS.Diff

namespace BS.Inv

theorem encodeArg_subst (k : PKind) (a : AVal) :
    encodeArg k (subst a) = if encodable a then some (subst a) else none := by
  cases a <;> rfl

theorem encodeArgs_eq (args : List (PKind × AVal)) :
    encodeArgs args =
      if args.all (encodable ·.2) then some (args.map fun p => (p.1, subst p.2)) else none := by
  induction args with
  | nil => rfl
  | cons p ps ih =>
    rw [encodeArgs, encodeArg_subst, ih, List.all_cons]
    cases encodable p.2 <;> cases ps.all (encodable ·.2) <;> rfl

/-- `*Result`s are replaced by references to their invocation, which the worker resolves in its own address space. -/
theorem args_roundtrip (args : List (PKind × AVal)) (h : ∀ p ∈ args, encodable p.2 = true) :
    (encodeArgs args).map decodeArgs = some (args.map fun p => subst p.2) := by
  rw [encodeArgs_eq, if_pos (List.all_eq_true.mpr h)]
  simp [decodeArgs, decodeArg]

theorem unencodable_fails (pre post : List (PKind × AVal)) (k : PKind) (a : AVal)
    (h : encodable a = false) : encodeArgs (pre ++ (k, a) :: post) = none := by
  rw [encodeArgs_eq, if_neg]
  simp [h]

example : encodeArgs [(.resultPtr, .result 3), (.iface, .nilv), (.other, .val "int64(9)")]
    = some [(.resultPtr, .ref 3), (.iface, .nilv), (.other, .val "int64(9)")] := rfl

end BS.Inv
