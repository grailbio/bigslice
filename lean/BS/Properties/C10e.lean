import BS.Properties.C10m
/-!
# C10 (read errors) — an input's error is reported, never swallowed as end-of-stream

For the reducing merge over any number of inputs, each of which may end with an error after any number of rows:
the reader ends with end-of-stream only if no input fails, and then it delivers the keyed fold of all rows
(`no_failing_input`, `clean_eof_is_complete`); if some input fails the reader ends with an error, whatever the other
inputs hold (`error_reported`); and every row it delivered before that is a row of the output the same inputs' rows
prescribe — a prefix of it, no row combined from partial data (`rows_before_error_correct`).
-/
namespace BS.Merge
open BS.KV

variable (comb : Int → Int → Int)

theorem rowsOf_advE (k : Int) (ss : List ES) : rowsOf (advE k ss) = advance k (rowsOf ss) := by
  simp [advance_eq_map, rowsOf, advE]

theorem fails_advE (k : Int) (ss : List ES) : (advE k ss).map (·.fails) = ss.map (·.fails) := by
  simp [advE, List.map_map, Function.comp_def]

def noFail (ss : List ES) : Prop := ∀ s ∈ ss, s.fails = false

theorem noFail_advE (k : Int) (ss : List ES) (h : noFail ss) : noFail (advE k ss) :=
  List.forall_mem_map.mpr h

theorem anyDead_noFail (ss : List ES) (h : noFail ss) : anyDead ss = false :=
  List.any_eq_false.mpr fun s hs => by simp [dead, h s hs]

theorem erun_noFail (fuel : Nat) (ss : List ES) (h : noFail ss) :
    erun comb fuel ss = (run comb fuel (rowsOf ss), false) := by
  fun_induction erun comb fuel ss with
  | case1 => rfl
  | case2 fuel ss hm => rw [run, step, hm]
  | case3 fuel ss k hm ss' hd => exact absurd hd (Bool.eq_false_iff.mp (anyDead_noFail _ (noFail_advE k ss h)))
  | case4 fuel ss k hm ss' hd r ih =>
    rw [show r = _ from ih (noFail_advE k ss h), run_some comb fuel hm, rowsOf_advE]

/-- without a failing input the reader is the plain reduce-merge machine -/
theorem no_failing_input (fuel : Nat) (ss : List ES) (h : noFail ss) :
    ereduce comb fuel ss = (run comb fuel (rowsOf ss), false) := by
  rw [ereduce, anyDead_noFail ss h, if_neg Bool.false_ne_true, erun_noFail comb fuel ss h]

theorem erun_prefix (fuel : Nat) (ss : List ES) : (erun comb fuel ss).1 <+: run comb fuel (rowsOf ss) := by
  fun_induction erun comb fuel ss with
  | case1 | case2 | case3 => exact List.nil_prefix
  | case4 fuel ss k hm ss' hd r ih =>
    rw [run_some comb fuel hm, ← rowsOf_advE]
    exact (List.prefix_cons_inj _).mpr ih

theorem rows_before_error_correct (fuel : Nat) (ss : List ES) :
    (ereduce comb fuel ss).1 <+: run comb fuel (rowsOf ss) := by
  rw [ereduce]
  split
  · exact List.nil_prefix
  · exact erun_prefix comb fuel ss

/-- the failing input stays in the set; when the rows run out it is dead -/
theorem erun_error (fuel : Nat) (ss : List ES) (h : true ∈ ss.map (·.fails)) (hnd : ¬ anyDead ss = true)
    (hf : (rowsOf ss).flatten.length < fuel) : (erun comb fuel ss).2 = true := by
  fun_induction erun comb fuel ss with
  | case1 => exact absurd hf (Nat.not_lt_zero _)
  | case2 fuel ss hm =>
    obtain ⟨s, hs, hfs⟩ := List.mem_map.mp h
    have : s.rows = [] := List.flatten_eq_nil_iff.mp (minKey_none hm) _ (List.mem_map_of_mem hs)
    exact absurd (List.any_eq_true.mpr ⟨s, hs, by simp [dead, this, hfs]⟩) hnd
  | case3 => rfl
  | case4 fuel ss k hm ss' hd r ih =>
    refine ih (fails_advE k ss ▸ h) hd ?_
    exact rowsOf_advE k ss ▸ Nat.lt_of_lt_of_le (advance_length_lt hm) (Nat.le_of_lt_succ hf)

theorem error_reported (fuel : Nat) (ss : List ES) (h : ∃ s ∈ ss, s.fails = true)
    (hf : (rowsOf ss).flatten.length < fuel) : (ereduce comb fuel ss).2 = true := by
  rw [ereduce]
  split
  · rfl
  next hnd => exact erun_error comb fuel ss (List.mem_map.mpr h) hnd hf

/-- end-of-stream means complete; the inputs are strictly sorted, as combiners produce them -/
theorem clean_eof_is_complete (hc : ∀ a b, comb a b = comb b a) (ha : ∀ a b c, comb (comb a b) c = comb a (comb b c))
    (ss : List ES) (hs : AllStrict (rowsOf ss)) :
    let r := ereduce comb ((rowsOf ss).flatten.length + 1) ss
    (r.2 = false ↔ noFail ss) ∧ (r.2 = false → r.1 = reduceAll comb (rowsOf ss)) := by
  intro r
  have key : noFail ss → r = (reduceAll comb (rowsOf ss), false) := fun h =>
    (no_failing_input comb _ ss h).trans (by rw [reduce_machine_spec comb hc ha _ hs])
  have hno : r.2 = false → noFail ss := fun h s hsm => Bool.eq_false_iff.mpr fun hf =>
    Bool.false_ne_true (h.symm.trans (error_reported comb _ ss ⟨s, hsm, hf⟩ (Nat.lt_succ_self _)))
  exact ⟨⟨hno, fun h => by rw [key h]⟩, fun h => by rw [key (hno h)]⟩

/-- non-vacuity: the second input fails after its row for key 2.  The row for key 1 is delivered; the round of key 2
uses up the failing input, so the reader ends with the error in place of that round's row.  Without the failure all
three keys come out. -/
example : ereduce (· + ·) 10 [⟨[(1, 1), (4, 4)], false⟩, ⟨[(1, 10), (2, 2)], true⟩] = ([(1, 11)], true) := rfl
example : ereduce (· + ·) 10 [⟨[(1, 1), (4, 4)], false⟩, ⟨[(1, 10), (2, 2)], false⟩] = ([(1, 11), (2, 2), (4, 4)], false) := rfl
example : ereduce (· + ·) 10 [⟨[], true⟩, ⟨[(1, 10)], false⟩] = ([], true) := rfl

end BS.Merge
