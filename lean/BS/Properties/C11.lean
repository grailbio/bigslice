import BS.Proofs.Frame
/-!
# C11 — Frame views are transparent and never touch rows outside the view

Every theorem is about the model `BS.Frame` (frame/frame.go, function by
function); the tie to /repo is the step-by-step correspondence of
`tools/check.py C11` plus the generated index kernels (T2).
`x_view` says what the view denotes after operation `x`; `x_frame` is its frame condition: no row of any store
outside the rows written changes.  `zero`, `copy` and `sortView` unfold to a `poke` (Proofs/Frame), so the lemmas about
`poke` apply to them as they stand.
-/
namespace BS.Frame

theorem slice_eq_some {f g : Frame} {i j : Nat} (h : slice f i j = some g) :
    i ≤ j ∧ j ≤ f.cap ∧ g = window f i j := by
  obtain ⟨hc, h⟩ := Option.ite_none_left_eq_some.mp h
  exact ⟨Nat.le_of_not_lt fun h => hc (.inl h), Nat.le_of_not_lt fun h => hc (.inr h), (Option.some.inj h).symm⟩

theorem slice_view (m : Mem) (f g : Frame) (i j : Nat) (h : slice f i j = some g) (hj : j ≤ f.len) :
    view m g = ((view m f).drop i).take (j - i) := by
  obtain ⟨_, _, rfl⟩ := slice_eq_some h
  simp only [view, window, List.drop_drop, List.drop_take, List.take_take]
  rw [Nat.min_eq_left (Nat.sub_le_sub_right hj i)]

theorem slice_wf (m : Mem) (f g : Frame) (i j : Nat) (hw : WF m f) (h : slice f i j = some g) :
    WF m g := by
  obtain ⟨hij, hjc, rfl⟩ := slice_eq_some h
  refine ⟨hw.sid_lt, Nat.sub_le_sub_right hjc i, ?_⟩
  show f.off + i + (f.cap - i) ≤ _
  rw [Nat.add_assoc, Nat.add_sub_cancel' (Nat.le_trans hij hjc)]
  exact hw.cap_le

theorem swap_view (m : Mem) (f : Frame) (i j : Nat) (hw : WF m f) (hi : i < f.len) (hj : j < f.len) :
    view (swap m f i j) f = swapRows (view m f) i j := by
  simp only [view, swap, storeOf_setStore_same hw.sid_lt, swapRows, idx, take_drop_set, getD_take_drop hi,
    getD_take_drop hj]

/-- `Swap` touches rows `off + i` and `off + j` of the frame's store and no other, wherever `i` and `j` point. -/
theorem rowAt_swap {m : Mem} {f : Frame} {i j sid k : Nat} (hs : f.sid < m.length)
    (h : ¬ (sid = f.sid ∧ (k = f.off + i ∨ k = f.off + j))) : rowAt (swap m f i j) sid k = rowAt m sid k := by
  refine rowAt_setStore hs fun e => ?_
  rw [swapRows, idx, idx, List.getElem?_set_ne fun e' => h ⟨e, .inr e'.symm⟩,
    List.getElem?_set_ne fun e' => h ⟨e, .inl e'.symm⟩]

/-- `rowAt_swap` in the stated form (its bounds on `i`, `j` are not needed) -/
theorem swap_frame (m : Mem) (f : Frame) (i j : Nat) (hw : WF m f) (hi : i < f.len) (hj : j < f.len)
    (sid k : Nat) (h : ¬ (sid = f.sid ∧ (k = f.off + i ∨ k = f.off + j))) :
    rowAt (swap m f i j) sid k = rowAt m sid k :=
  rowAt_swap hw.sid_lt h

theorem swapRows_perm {s : List Row} {a b : Nat} (ha : a < s.length) (hb : b < s.length) :
    (swapRows s a b).Perm s := by
  simp only [swapRows, List.getD_eq_getElem?_getD, List.getElem?_eq_getElem, ha, hb, Option.getD_some]
  exact List.set_set_perm ha hb

theorem swap_perm (m : Mem) (f : Frame) (i j : Nat) (hw : WF m f) (hi : i < f.len) (hj : j < f.len) :
    (view (swap m f i j) f).Perm (view m f) := by
  rw [swap_view m f i j hw hi hj]
  have hl := view_length hw
  exact swapRows_perm (hl ▸ hi) (hl ▸ hj)

theorem swap_wf {m : Mem} {f g : Frame} {i j : Nat} (hf : WF m f) (hg : WF m g) : WF (swap m f i j) g := by
  refine ⟨(List.length_set ..).symm ▸ hg.sid_lt, hg.len_le_cap, ?_⟩
  unfold swap
  by_cases hs : f.sid = g.sid
  · rw [← hs, storeOf_setStore_same hf.sid_lt, swapRows, List.length_set, List.length_set, hs]; exact hg.cap_le
  · rw [storeOf_setStore_other hs]; exact hg.cap_le

/-- What `sort.Sort` needs from `Swap`: any sequence of in-range swaps permutes the view. -/
theorem swaps_permute (f : Frame) (ops : List (Nat × Nat)) (m : Mem) (hw : WF m f)
    (hops : ∀ p ∈ ops, p.1 < f.len ∧ p.2 < f.len) :
    (view (ops.foldl (fun m p => swap m f p.1 p.2) m) f).Perm (view m f) := by
  induction ops generalizing m with
  | nil => exact List.Perm.refl _
  | cons p ps ih =>
    have hp := hops p List.mem_cons_self
    exact (ih _ (swap_wf hw hw) fun q hq => hops q (List.mem_cons_of_mem p hq)).trans
      (swap_perm m f p.1 p.2 hw hp.1 hp.2)

theorem less_view {m : Mem} {f : Frame} {i j : Nat} (hi : i < f.len) (hj : j < f.len) :
    less m f i j = lexLt f.pfx ((view m f).getD i []) ((view m f).getD j []) := by
  unfold less; rw [view_getD m f i hi, view_getD m f j hj]

theorem less_position_independent (m₁ m₂ : Mem) (f g : Frame) (i j i' j' : Nat)
    (hi : i < f.len) (hj : j < f.len) (hi' : i' < g.len) (hj' : j' < g.len) (hp : f.pfx = g.pfx)
    (h1 : (view m₁ f).getD i [] = (view m₂ g).getD i' [])
    (h2 : (view m₁ f).getD j [] = (view m₂ g).getD j' []) :
    less m₁ f i j = less m₂ g i' j' := by
  rw [less_view hi hj, less_view hi' hj', h1, h2, hp]

theorem lexLt_nil_left (n : Nat) (b : Row) : lexLt n [] b = false := by cases n <;> rfl
theorem lexLt_nil_right (n : Nat) (a : Row) : lexLt n a [] = false := by cases n <;> cases a <;> rfl

/-- Go compares the key columns left to right: on rows that have the columns, the lexicographic order.  The model's
separate branch for the last key column (Go's closing `return f.data[f.prefix].ops.Less(…)`, frame.go:384) is this
equation at `n = 0`. -/
theorem lexLt_cons (n : Nat) (a b : Int) (as bs : Row) :
    lexLt (n + 1) (a :: as) (b :: bs) = (decide (a < b) || (decide (a = b) && lexLt n as bs)) := by
  rw [lexLt]
  rcases Int.lt_trichotomy a b with h | rfl | h
  · simp [h]
  · cases n <;> simp [lexLt]
  · simp [Int.not_lt.mpr (Int.le_of_lt h), Int.ne_of_gt h, h]

theorem lexLt_irrefl (n : Nat) (a : Row) : lexLt n a a = false := by
  induction n generalizing a with
  | zero => rfl
  | succ n ih => cases a <;> simp [lexLt_nil_left, lexLt_cons, ih]

theorem lexLt_trans (n : Nat) (a b c : Row) (h1 : lexLt n a b = true) (h2 : lexLt n b c = true) :
    lexLt n a c = true := by
  induction n generalizing a b c with
  | zero => cases h1
  | succ n ih =>
    obtain _ | ⟨x, xs⟩ := a
    · rw [lexLt_nil_left] at h1; cases h1
    obtain _ | ⟨y, ys⟩ := b
    · rw [lexLt_nil_right] at h1; cases h1
    obtain _ | ⟨z, zs⟩ := c
    · rw [lexLt_nil_right] at h2; cases h2
    simp only [lexLt_cons, Bool.or_eq_true, Bool.and_eq_true, decide_eq_true_eq] at h1 h2 ⊢
    obtain hxy | ⟨rfl, h1⟩ := h1
    · obtain hyz | ⟨rfl, -⟩ := h2
      · exact .inl (Int.lt_trans hxy hyz)
      · exact .inl hxy
    · obtain hyz | ⟨rfl, h2⟩ := h2
      · exact .inl hyz
      · exact .inr ⟨rfl, ih _ _ _ h1 h2⟩

theorem lexLt_asymm (n : Nat) (a b : Row) (h : lexLt n a b = true) : lexLt n b a = false :=
  eq_false_of_ne_true fun h' => Bool.false_ne_true (lexLt_irrefl n a ▸ lexLt_trans n a b a h h')

/-- Negative transitivity, so `Less` is a strict weak order on rows that have all key columns. -/
theorem lexLt_negtrans (n : Nat) (a b c : Row) (ha : n ≤ a.length) (hb : n ≤ b.length) (hc : n ≤ c.length)
    (h1 : lexLt n a b = false) (h2 : lexLt n b c = false) : lexLt n a c = false := by
  induction n generalizing a b c with
  | zero => rfl
  | succ n ih =>
    obtain ⟨x, xs, rfl⟩ := List.exists_cons_of_length_pos (Nat.lt_of_lt_of_le n.succ_pos ha)
    obtain ⟨y, ys, rfl⟩ := List.exists_cons_of_length_pos (Nat.lt_of_lt_of_le n.succ_pos hb)
    obtain ⟨z, zs, rfl⟩ := List.exists_cons_of_length_pos (Nat.lt_of_lt_of_le n.succ_pos hc)
    simp only [lexLt_cons, Bool.or_eq_false_iff, Bool.and_eq_false_imp, decide_eq_false_iff_not,
      decide_eq_true_eq, Int.not_lt] at h1 h2 ⊢
    refine ⟨Int.le_trans h2.1 h1.1, fun hxz => ?_⟩
    subst hxz
    obtain rfl := Int.le_antisymm h2.1 h1.1
    exact ih _ _ _ (Nat.le_of_succ_le_succ ha) (Nat.le_of_succ_le_succ hb) (Nat.le_of_succ_le_succ hc)
      (h1.2 rfl) (h2.2 rfl)

theorem zero_view (nc : Nat) (m : Mem) (f : Frame) (hw : WF m f) :
    view (zero nc m f) f = List.replicate f.len (zeroRow nc) :=
  view_setStore hw List.length_replicate

theorem zero_frame (nc : Nat) (m : Mem) (f : Frame) (hw : WF m f) (sid k : Nat)
    (h : ¬ (sid = f.sid ∧ f.off ≤ k ∧ k < f.off + f.len)) :
    rowAt (zero nc m f) sid k = rowAt m sid k :=
  rowAt_poke_outside hw List.length_replicate h

theorem length_take_view {m : Mem} {src : Frame} {n : Nat} (hs : WF m src) :
    ((view m src).take (min n src.len)).length = min n src.len := by
  rw [List.length_take, view_length hs, Nat.min_eq_left (Nat.min_le_right ..)]

/-- The source rows are read before any write, so aliasing views of one store are covered. -/
theorem copy_view (m : Mem) (dst src : Frame) (hd : WF m dst) (hs : WF m src) :
    view (copy m dst src).1 dst
      = (view m src).take (min dst.len src.len) ++ (view m dst).drop (min dst.len src.len) :=
  view_poke hd (length_take_view hs) (Nat.min_le_left ..)

theorem copy_frame (m : Mem) (dst src : Frame) (hd : WF m dst) (hs : WF m src) (sid k : Nat)
    (h : ¬ (sid = dst.sid ∧ dst.off ≤ k ∧ k < dst.off + min dst.len src.len)) :
    rowAt (copy m dst src).1 sid k = rowAt m sid k :=
  rowAt_poke_outside hd (length_take_view hs) h

theorem copy_count (m : Mem) (dst src : Frame) : (copy m dst src).2 = min dst.len src.len := rfl

theorem growCap_ge (i0 i1 fuel c : Nat) (hc : 0 < c) (hi : i0 ≤ c) (hf : i1 ≤ c + fuel) :
    i1 ≤ growCap i0 i1 fuel c := by
  fun_induction growCap i0 i1 fuel c with
  | case1 => exact hf
  | case2 n c _ ih =>
    -- each round uses one unit of fuel and adds at least one row of capacity
    have hlt : c < (if i0 < 1024 then c + c else c + c / 4) := by
      split
      · exact Nat.lt_add_of_pos_right hc
      · next h =>
        have : 4 ≤ c := Nat.le_trans (Nat.le_trans (by decide) (Nat.le_of_not_lt h)) hi
        exact Nat.lt_add_of_pos_right (Nat.div_pos this (by decide))
    exact ih (Nat.lt_trans hc hlt) (Nat.le_trans hi (Nat.le_of_lt hlt))
      (Nat.le_trans hf (Nat.succ_add_eq_add_succ c n ▸ Nat.add_le_add_right hlt n))
  | case3 _ _ h => exact Nat.le_of_not_lt h

/-- `grow` (frame.go:458): the result is a well-formed frame of length `len + need` whose first `len` rows are the old
view; no existing store changes; the indices returned are `len` and `len + need`. -/
theorem grow_spec (nc : Nat) (m : Mem) (f : Frame) (need : Nat) (hw : WF m f) :
    ∃ m' g, grow nc m f need = (m', g, f.len, f.len + need) ∧ WF m' g ∧ g.len = f.len + need ∧ g.pfx = f.pfx
      ∧ (view m' g).take f.len = view m f
      ∧ m.length ≤ m'.length ∧ ∀ sid, sid < m.length → storeOf m' sid = storeOf m sid := by
  have hl := view_length hw
  by_cases h : f.len + need ≤ f.cap
  · refine ⟨_, _, if_pos h, ⟨hw.sid_lt, h, hw.cap_le⟩, rfl, rfl, ?_, Nat.le_refl _, fun _ _ => rfl⟩
    simp only [view, List.take_take]
    rw [Nat.min_eq_left (Nat.le_add_right ..)]
  · -- a new store; the capacity policy makes it large enough
    have hc : f.len + need ≤ (if f.cap = 0 then need else growCap f.len (f.len + need) (f.len + need) f.cap) := by
      split
      · next h0 => rw [Nat.le_zero.mp (h0 ▸ hw.len_le_cap : f.len ≤ 0), Nat.zero_add]; exact Nat.le_refl _
      · next h0 => exact growCap_ge _ _ _ _ (Nat.pos_of_ne_zero h0) hw.len_le_cap (Nat.le_add_left ..)
    refine ⟨_, _, if_neg h, ⟨by simp, hc, ?_⟩, rfl, rfl, ?_, by simp, fun _ hs => storeOf_append_left hs⟩
    · simp only [storeOf_append_right, List.length_append, List.length_replicate, hl, Nat.zero_add,
        Nat.add_sub_cancel' (Nat.le_trans (Nat.le_add_right ..) hc), Nat.le_refl]
    · rw [view_append_right, List.take_take, Nat.min_eq_left (Nat.le_add_right ..), List.take_left' hl]

theorem append_view (nc : Nat) (m : Mem) (dst src : Frame) (hd : WF m dst) (hs : WF m src) :
    let r := appendFrame nc m dst src
    view r.1 r.2 = view m dst ++ view m src := by
  obtain ⟨m', g, e, hg, hgl, _, hgv, _, hst⟩ := grow_spec nc m dst src.len hd
  have hl := view_length hs
  have hdst : ((storeOf m' g.sid).drop g.off).take dst.len = view m dst := by
    rw [← hgv, view, List.take_take, Nat.min_eq_left (hgl ▸ Nat.le_add_right ..)]
  -- `grow` leaves the source alone; `Copy` puts all of it behind the first `dst.len` rows of the grown frame's window,
  -- which are the old view
  simp only [appendFrame, e, copy, window, Nat.add_sub_cancel_left, Nat.min_self, view_congr (hst _ hs.sid_lt),
    List.take_of_length_le (Nat.le_of_eq hl)]
  rw [List.take_add, hdst, List.append_assoc (List.take ..)]
  exact view_setStore hg (by rw [List.length_append, view_length hd, hl, hgl])

theorem insertBy_perm (lt : Row → Row → Bool) (x : Row) (l : List Row) :
    (insertBy lt x l).Perm (x :: l) := by
  fun_induction insertBy lt x l with
  | case1 | case2 => exact .rfl
  | case3 y ys _ ih => exact (ih.cons y).trans (.swap x y ys)

theorem sortBy_perm (lt : Row → Row → Bool) (l : List Row) : (sortBy lt l).Perm l := by
  fun_induction sortBy lt l with
  | case1 => exact .rfl
  | case2 x xs ih => exact (insertBy_perm lt x _).trans (ih.cons x)

theorem length_sortBy_view {m : Mem} {f : Frame} {lt : Row → Row → Bool} (hw : WF m f) :
    (sortBy lt (view m f)).length = f.len := by
  rw [(sortBy_perm ..).length_eq, view_length hw]

/-- With `sortBy_perm`: sorting permutes the view.  `sort.Sort` is not stable; `sortBy` fixes one order among rows with
equal keys, and the comparison with /repo (Driver/C11, `hasKeyDup`) leaves views with duplicate keys out. -/
theorem sortView_view (m : Mem) (f : Frame) (hw : WF m f) :
    view (sortView m f) f = sortBy (lexLt f.pfx) (view m f) :=
  view_setStore hw (length_sortBy_view hw)

theorem sortView_frame (m : Mem) (f : Frame) (hw : WF m f) (sid k : Nat)
    (h : ¬ (sid = f.sid ∧ f.off ≤ k ∧ k < f.off + f.len)) :
    rowAt (sortView m f) sid k = rowAt m sid k :=
  rowAt_poke_outside hw (length_sortBy_view hw) h

/-! A concrete store with two aliasing views satisfies the hypotheses. -/

def exMem : Mem := [[[5, 1], [3, 2], [9, 3], [7, 4], [1, 5]]]
def exF : Frame := { sid := 0, off := 1, len := 3, cap := 4, pfx := 1 }
def exG : Frame := { sid := 0, off := 2, len := 2, cap := 3, pfx := 1 }

theorem exWF : WF exMem exF ∧ WF exMem exG := by
  unfold WF; decide
example : view (swap exMem exF 0 2) exF = [[7, 4], [9, 3], [3, 2]] := by decide +kernel
example : view (copy exMem exF exG).1 exF = [[9, 3], [7, 4], [7, 4]] := by decide +kernel
example : less exMem exF 0 1 = true ∧ less exMem exF 1 0 = false := by decide +kernel
example : view (appendFrame 2 exMem exF exG).1 (appendFrame 2 exMem exF exG).2
    = [[3, 2], [9, 3], [7, 4], [9, 3], [7, 4]] := by decide +kernel

/-- `Swap` with the addressing of defect D1 (known_findings.json: fixed; frame.go:357 read `i - f.off`): in a view
whose offset is not zero it swaps rows outside the view. -/
def swapBuggy (m : Mem) (f : Frame) (i j : Nat) : Mem :=
  setStore m f.sid (swapRows (storeOf m f.sid) (i - f.off) (j - f.off))

theorem swapBuggy_violates :
    ∃ m f i j, WF m f ∧ i < f.len ∧ j < f.len ∧ view (swapBuggy m f i j) f ≠ swapRows (view m f) i j :=
  ⟨exMem, exF, 1, 2, exWF.1, by decide, by decide, by decide⟩

end BS.Frame
