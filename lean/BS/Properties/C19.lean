import BS.Model.Elect
import BS.Proofs.ListSet
/-!
# C19 — shared tasks are executed by one of the concurrent runs and awaited by the others

Under *any* interleaving of the evaluators' steps with the executor's: a run of the task is in flight exactly while the
task is WAITING or RUNNING, and then exactly one evaluator is its runner (`reachable_inv`, read through `inv_iff`;
`one_runner` states the bound); an evaluator reports the task done only when it is OK or ERR (`done_only_when_final`).
That the other evaluators wait meanwhile, and that a LOST task is elected again, is how `step` is written, not a theorem.
The bookkeeping of *consecutive* losses by the former runner is outside this model: D14.
-/
namespace BS.Elect

theorem runners_eq (s : S) : runners s = s.ev.count .runner := List.countP_eq_length_filter.symm

def flight (t : TS) : Nat := if t = .waiting ∨ t = .running then 1 else 0

/-- `Inv` as an equation between counts: a step is an addition (`inv_set`) -/
theorem inv_iff (s : S) : Inv s ↔ runners s = flight s.t ∧ (.done ∈ s.ev → s.t = .ok ∨ s.t = .err) := by
  unfold Inv inFlight flight; split <;> simp [*]

theorem inv_set {s : S} (h : Inv s) {i : Nat} {p : PC} (he : s.ev[i]? = some p) (q : PC) (t' : TS)
    (hrun : flight s.t + (if q == .runner then 1 else 0) = flight t' + (if p == .runner then 1 else 0))
    (hq : q = .done → t' = .ok ∨ t' = .err) (ht : s.t = .ok ∨ s.t = .err → t' = .ok ∨ t' = .err) :
    Inv ⟨t', s.ev.set i q⟩ := by
  rw [inv_iff, runners_eq] at h ⊢
  have hc := (perm_set he q).count_eq .runner
  rw [List.count_cons, List.count_cons] at hc
  exact ⟨Nat.add_right_cancel (hc.trans (h.1 ▸ hrun)),
    fun hm => (List.mem_or_eq_of_mem_set hm).elim (fun hm => ht (h.2 hm)) fun e => hq e.symm⟩

theorem mem_demote {ev : List PC} {q : PC} (h : q ∈ ev.map fun p => if p = .runner then .waiter else p) :
    q ≠ .runner ∧ (q = .waiter ∨ q ∈ ev) := by
  obtain ⟨p, hp, rfl⟩ := List.mem_map.mp h
  split
  · exact ⟨nofun, .inl rfl⟩
  next hne => exact ⟨hne, .inr hp⟩

theorem inv_step (s : S) (a : Act) (h : Inv s) : Inv (step s a) := by
  -- the arms of `step` that change the state: an idle evaluator is elected runner (1) or made a waiter (2); the run starts
  -- (4) and ends (6); a waiter sees the final state (8) or the loss (9)
  fun_cases step s a with
  | case1 i he hc =>
    exact inv_set h he .runner .waiting (by rcases hc with hc | hc <;> rw [hc] <;> rfl) nofun
      (by rcases hc with hc | hc <;> simp [hc])
  | case2 i he => exact inv_set h he .waiter s.t rfl nofun id
  | case4 hw => rw [inv_iff] at h ⊢; simpa [hw, runners_eq, flight] using h
  | case6 r hc =>
    rw [inv_iff] at h ⊢
    constructor
    · rw [runners_eq, List.count_eq_zero.mpr fun hm => (mem_demote hm).1 rfl]
      rcases hc.2 with rfl | rfl | rfl <;> rfl
    · intro hm
      have := h.2 ((mem_demote hm).2.resolve_left nofun)
      simp [hc.1] at this
  | case8 i he hf => exact inv_set h he .done s.t rfl (fun _ => hf) id
  | case9 i he => exact inv_set h he .idle s.t rfl nofun id
  | _ => exact h

theorem inv_init (n : Nat) : Inv (init n) := by
  simp [inv_iff, init, runners_eq, flight, List.count_replicate]

theorem reachable_inv (n : Nat) (as : List Act) : Inv (run (init n) as) :=
  List.foldlRecOn (motive := Inv) as step (inv_init n) fun s h a _ => inv_step s a h

theorem one_runner (n : Nat) (as : List Act) : runners (run (init n) as) ≤ 1 := by
  rw [((inv_iff _).mp (reachable_inv n as)).1, flight]; split <;> decide

theorem done_only_when_final (n : Nat) (as : List Act) (h : PC.done ∈ (run (init n) as).ev) :
    (run (init n) as).t = .ok ∨ (run (init n) as).t = .err :=
  (reachable_inv n as).2.2 h

/-- non-vacuity: the task is lost once and elected again by another evaluator -/
example : run (init 3) [.elect 0, .elect 1, .start, .finish .lost, .observe 1, .elect 1, .elect 2, .start, .finish .ok,
    .observe 0, .observe 1, .observe 2] = ⟨.ok, [.done, .done, .done]⟩ := by decide +kernel

end BS.Elect
