import BS.Properties.C01
/-!
# C05 (end to end) — after a keyed redistribution every row sits in the shard of its key, under every strategy

Consequences of `execOp_sim`: in the result of `Reshuffle` and of `Reduce`, on the reference and under every execution,
shard `p` holds only rows whose key hashes to `p`; hence equal keys are never in two shards.  (This is the shape of the
hypothesis `hloc` of `BS.Part.aggregate_unique_keys` in C05, "a keyed aggregation emits each key once".)
-/
namespace BS.Exec
open BS.Prog BS.KV BS.Part BS.Sem

theorem foldMap_key_mem (comb : Int → Int → Int) (rows : List KV) (x : KV) (h : x ∈ foldMap comb rows) :
    ∃ y ∈ rows, y.1 = x.1 := by
  refine List.foldlRecOn (motive := fun m => ∀ x ∈ m, ∃ y ∈ rows, y.1 = x.1) rows _ (fun _ hx => absurd hx List.not_mem_nil)
    (fun m ih r hr x hx => ?_) x h
  rcases mem_insertKV hx with hk | hx
  · exact ⟨r, hr, hk.symm⟩
  · exact ih x hx

/-- `k` sends a key to its shard; `G` is what the operator does to a shard after redistribution (it may only keep keys) -/
theorem keyed_colocated {n : Nat} {k : Int → Nat} {s : List (List KV)} {G : List KV → List KV}
    (hG : ∀ x r, r ∈ G x → ∃ y ∈ x, y.1 = r.1) {p : Nat} {r : KV}
    (h : r ∈ ((redistribute n (fun r => k r.1) s).map G).getD p []) : k r.1 = p := by
  unfold redistribute at h
  rw [List.getD_eq_getElem?_getD, List.getElem?_map, List.getElem?_map] at h
  by_cases hp : p < n
  · rw [List.getElem?_range hp] at h
    obtain ⟨y, hy, hk⟩ := hG _ r h
    exact hk ▸ eq_of_beq (List.mem_filter.mp hy).2
  · -- beyond the last shard `getD` answers `[]`
    rw [List.getElem?_eq_none (List.length_range ▸ Nat.le_of_not_lt hp)] at h
    cases h

theorem sem_reshuffle_colocated (env res : List Shards) (s : Ref) (p : Nat) (r : KV)
    (h : r ∈ (evalOp env res (.reshuffle s)).rows.getD p []) :
    keyPart (getRef env res s).rows.length r.1 = p := by
  dsimp only [evalOp] at h
  rw [← List.map_id (redistribute _ _ _)] at h
  exact keyed_colocated (fun _ r hr => ⟨r, hr, rfl⟩) h

theorem sem_reduce_colocated (env res : List Shards) (s : Ref) (c : String) (p : Nat) (r : KV)
    (h : r ∈ (evalOp env res (.reduce s c)).rows.getD p []) :
    keyPart (getRef env res s).rows.length r.1 = p :=
  keyed_colocated (foldMap_key_mem _) h

/-- **every execution**: what a `Reshuffle` or `Reduce` node yields under any valid strategy holds in shard `p` only rows
whose key belongs to shard `p` -/
theorem exec_keyed_colocated (σ : Strategy) (hσ : σ.Valid) (i : Nat) (env res : List Shards) (s : Ref) (p : Nat) (r : KV)
    (op : Op) (hop : op = .reshuffle s ∨ ∃ c, op = .reduce s c)
    (hp : p < (execOp σ i env res op).rows.length)
    (h : r ∈ (execOp σ i env res op).rows.getD p []) :
    keyPart (getRef env res s).rows.length r.1 = p := by
  have hwf : wfOp env res op = true := by rcases hop with rfl | ⟨c, rfl⟩ <;> rfl
  have hs := execOp_sim σ hσ i (All2.refl Sim.refl env) (All2.refl Sim.refl res) op hwf
  have hm := (hs.rows.getD p (.of_eq rfl)).perm.mem_iff.mp h
  rcases hop with rfl | ⟨c, rfl⟩
  · exact sem_reshuffle_colocated env res s p r hm
  · exact sem_reduce_colocated env res s c p r hm

end BS.Exec
