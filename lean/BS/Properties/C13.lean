import BS.Model.Cache
import BS.Properties.C01
/-!
# C13 — caching is transparent, complete-or-absent, and skips recomputation

`evalNodesC f` evaluates a program, sequentially like the reference (no `Exec.Strategy` occurs in this file), against a
set of cache files `f`: a shard of a cache node that is *served* (CachePartial: its file exists; Cache: the files of
all shards exist) is read from its file, the others are computed.  `cached_run_refines`: if every file holds the rows the
reference prescribes for its shard (`FilesOK` — what complete-or-absent writing maintains, checked file by file on every
run by the correspondence), then every node agrees with the reference evaluation, which ignores the cache
altogether (`cache_transparent`).  Which shards are served is a function of the files alone (`served_*`), so the driver
and the workers agree on it when they are given the same answer.
-/
namespace BS.Cache
open BS.Prog BS.KV BS.Sem BS.Exec

/-- in the reference a cache operator is the identity -/
theorem cache_transparent (env res : List Shards) (s : Ref) (part : Bool) (name : String) :
    evalOp env res (.cache s part name) = getRef env res s := rfl

theorem served_partial_iff (f : Files) (name : String) (n p : Nat) :
    served f name true n p = true ↔ (f.get name p).isSome = true := by simp [served]

theorem served_all_iff (f : Files) (name : String) (n p : Nat) :
    served f name false n p = true ↔ ∀ q, q < n → (f.get name q).isSome = true :=
  List.all_eq_true.trans (forall_congr' fun _ => imp_congr_left List.mem_range)

theorem served_nil (name : String) (part : Bool) (n p : Nat) (hn : 0 < n) : served [] name part n p = false := by
  cases part
  · exact List.all_eq_false.mpr ⟨0, List.mem_range.mpr hn, Bool.false_ne_true⟩
  · rfl

def fileOKAt (f : Files) (res env' : List Shards) : Op → Prop
  | .cache s _ name => ∀ p rows, f.get name p = some rows →
      RowsSim (getRef env' res s).ordered rows ((getRef env' res s).rows.getD p [])
  | _ => True

/-- `fileOKAt` at every node, `env'` being what the reference has evaluated before it -/
def FilesOK (f : Files) (res : List Shards) : List Op → List Shards → Prop
  | [], _ => True
  | op :: ops, env' => fileOKAt f res env' op ∧ FilesOK f res ops (env' ++ [evalOp env' res op])

theorem evalOpC_sim (f : Files) {env env' res : List Shards} (he : All2 Sim env env') (op : Op)
    (hwf : wfOp env' res op = true)
    (hf : fileOKAt f res env' op) :
    Sim (evalOpC f env res op) (evalOp env' res op) := by
  have hr := All2.refl Sim.refl res
  unfold evalOpC
  split
  · next s part name =>
    have hs := getRef_sim he hr s
    refine ⟨hs.ord, ?_⟩
    dsimp only [cacheOp, cache_transparent]
    rw [hs.len]
    refine All2.range_map_getD [] fun p hp => ?_
    split
    · next hsv =>
      have : (f.get name p).isSome = true := by
        cases part
        · exact (served_all_iff f name _ p).mp hsv p hp
        · exact (served_partial_iff f name _ p).mp hsv
      obtain ⟨rows, hg⟩ := Option.isSome_iff_exists.mp this
      rw [hg, hs.ord]
      exact hf p rows hg
    · exact hs.rows.getD p (.of_eq rfl)
  · exact evalOp_congr he hr _ hwf

theorem evalNodesC_sim (f : Files) (res : List Shards) (ops : List Op) {env env' : List Shards} (he : All2 Sim env env')
    (hwf : wfNodes res ops env' = true) (hf : FilesOK f res ops env') :
    All2 Sim (evalNodesC f res ops env) (evalNodes res ops env') := by
  induction ops generalizing env env' with
  | nil => exact he
  | cons op ops ih =>
    have ⟨h1, h2⟩ := Bool.and_eq_true_iff.mp hwf
    exact ih (he.append (.cons (evalOpC_sim f he op h1 hf.1) .nil)) h2 hf.2

theorem cached_run_refines (f : Files) (p : Program) (res : List Shards)
    (hwf : wfNodes res p.nodes [] = true) (hf : FilesOK f res p.nodes []) :
    All2 Sim (evalNodesC f res p.nodes []) (eval p res).1 :=
  evalNodesC_sim f res p.nodes All2.nil hwf hf

/-- without files the hypothesis of `cached_run_refines` holds (and nothing is served, `served_nil`) -/
theorem FilesOK_nil (res : List Shards) : ∀ (ops : List Op) (env : List Shards), FilesOK [] res ops env := by
  intro ops
  induction ops with
  | nil => exact fun _ => trivial
  | cons op ops ih =>
    refine fun env => ⟨?_, ih _⟩
    unfold fileOKAt
    split
    · exact fun _ _ h => nomatch h
    · trivial

/-- why every process must compile with the driver's view of the files: which shards are computed at all depends
on the files consulted.  With shard 0 of a complete-or-nothing cache missing the driver demands the upstream of every
shard; a worker that consulted the files after shard 0 had been rewritten would demand none of them (and, in the
engine, would not even register the upstream tasks the driver then asks it to run).  The engine therefore ships the driver's
decisions in a frozen compile environment — checked on every run by C08 (`envwritable`); that the shipped environment was
still writable is defect D25 (known_findings.json: fixed). -/
theorem demand_depends_on_view :
    let p : Program := ⟨[.const 2 [(1, 1), (2, 2)], .map (.node 0) "inc" .mat, .cache (.node 1) false "a"], .node 2⟩
    let driver : Files := [(("a", 1), [(3, 4)])]
    let worker : Files := [(("a", 0), [(2, 2)]), (("a", 1), [(3, 4)])]
    demand driver p (fun _ => 2) ≠ demand worker p (fun _ => 2) := by decide +kernel

example : served [(("a", 0), [(1, 1)]), (("a", 1), [])] "a" false 2 1 = true := by decide +kernel
example : served [(("a", 0), [(1, 1)])] "a" false 2 0 = false := by decide +kernel
example : served [(("a", 0), [(1, 1)])] "a" true 2 0 = true := by decide +kernel

end BS.Cache
